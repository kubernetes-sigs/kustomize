import Kust.Node
import Kust.Wire
import Kust.Fns
import Kust.Tables
import Kust.Sort
import Kust.Res
import Kust.Gen.FieldSpecs
import Kust.Gen.Lists
import Kust.Gen.Facts
import Kust.Lemmas.Basic
import Kust.Lemmas.Fields
import Kust.Lemmas.Str
import Kust.Lemmas.Ident
import Kust.Lemmas.FieldPath
import Kust.Lemmas.Path
import Kust.Lemmas.Res
import Kust.Props.C03
import Kust.Props.C07
import Kust.Props.C09
import Kust.Props.C09b
import Kust.Props.C11
import Kust.Props.C12
import Kust.Props.C12b
import Kust.Props.C14
import Kust.Props.C14b
import Kust.Props.C14c
import Kust.Props.C14d
import Kust.Props.C14e
import Kust.Str
import Kust.Fmt
import Kust.Walk
import Kust.GenMap
import Kust.Sha256
import Kust.Labels
import Kust.Image
import Kust.OpenApi
import Kust.Sync
import Kust.Reviewed
import Kust.Gen.CodeFacts
import Kust.Lemmas.Fmt
import Kust.Props.C01
import Kust.Props.C04
import Kust.Props.C06
import Kust.Props.C06b
import Kust.Props.C08
import Kust.Props.C08b
import Kust.Props.C10
import Kust.Props.C10b
import Kust.Props.C10c
import Kust.Props.C10d
import Kust.Props.C15
import Kust.Props.C16
import Kust.Props.C20
import Kust.Props.C20b
import Kust.FieldSpec
import Kust.Path
import Kust.Kio
import Kust.Props.C02
import Kust.Props.C02b
import Kust.Props.C02c
import Kust.Props.C05
import Kust.Props.C05b
import Kust.Props.C13
import Kust.Props.C13b
import Kust.Fix
import Kust.Props.C19
import Kust.Edit
import Kust.Kustfile
import Kust.Props.C17
import Kust.Loc
import Kust.Props.C18
import Kust.Nameref
import Kust.Repl
import Kust.FmtSchema
import Kust.Match
import Kust.ReplTree
import Kust.PathDisk
import Kust.Kv
import Kust.Subset
import Kust.RefVar
import Kust.PathSplit
import Kust.NsFilter
import Kust.Select
import Kust.CrdConfig
import Kust.KioRead
import Kust.SmPatchId
import Kust.Props.C03b
import Kust.Props.C03c
