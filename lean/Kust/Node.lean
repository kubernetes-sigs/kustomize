/-
  Kust.Node — the image of go-yaml's `yaml.Node` / kyaml's `*RNode` used by every kyaml-level model.

  * `Node`            a non-nil node (scalar / mapping / sequence)
  * `Option Node`     Go's possibly-nil `*RNode`
  * `Out α`           result of a Go call: value, error value, or panic (kept explicit so that
                      "never panics" is a statement and not an artefact of totalisation)

  Mapping nodes are association *lists*: key order and duplicate keys are kept, because the Go code
  appends new fields at the end and always takes the first match.  Keys are compared by their
  `Value` text only, exactly as `visitMappingNodeFields` does, so a key is a `String`.
  Tags are the raw `Tag` field in short form ("" for programmatically created nodes).
  Styles: scalars 0 plain, 1 double-quoted, 2 single-quoted, 3 literal, 4 folded;
          collections 0 block, 1 flow.
-/
namespace Kust

inductive Node where
  | scalar (tag : String) (value : String) (style : Nat)
  | map (style : Nat) (fields : List (String × Node))
  | seq (style : Nat) (items : List Node)
  deriving Repr, Inhabited

abbrev Fields := List (String × Node)

inductive Out (α : Type) where
  | ok (a : α)
  | err (cls : String)
  | panic (site : String)
  deriving Repr, DecidableEq

namespace Out
def bind {α β} (x : Out α) (f : α → Out β) : Out β :=
  match x with
  | ok a => f a
  | err c => err c
  | panic s => panic s
instance : Monad Out where
  pure := Out.ok
  bind := Out.bind
def isPanic {α} : Out α → Bool
  | panic _ => true
  | _ => false
@[simp] theorem bind_ok {α β} (a : α) (f : α → Out β) : (Out.ok a >>= f) = f a := rfl
@[simp] theorem bind_err {α β} (c : String) (f : α → Out β) : (Out.err c >>= f) = Out.err c := rfl
@[simp] theorem bind_panic {α β} (c : String) (f : α → Out β) : (Out.panic c >>= f) = Out.panic c := rfl
@[simp] theorem pure_eq {α} (a : α) : (pure a : Out α) = Out.ok a := rfl
end Out

namespace Node

-- structural boolean equality (`deriving DecidableEq` fails on the nested type).
mutual
def beq : Node → Node → Bool
  | .scalar t v s, .scalar t' v' s' => t == t' && v == v' && s == s'
  | .map s fs, .map s' fs' => s == s' && beqFields fs fs'
  | .seq s is, .seq s' is' => s == s' && beqItems is is'
  | _, _ => false
def beqFields : List (String × Node) → List (String × Node) → Bool
  | [], [] => true
  | (k, n) :: fs, (k', n') :: fs' => k == k' && beq n n' && beqFields fs fs'
  | _, _ => false
def beqItems : List Node → List Node → Bool
  | [], [] => true
  | n :: is, n' :: is' => beq n n' && beqItems is is'
  | _, _ => false
end

mutual
theorem beq_sound : ∀ (a b : Node), beq a b = true → a = b
  | .scalar t v s, .scalar t' v' s', h => by
      simp only [beq, Bool.and_eq_true, beq_iff_eq] at h
      obtain ⟨⟨rfl, rfl⟩, rfl⟩ := h; rfl
  | .map s fs, .map s' fs', h => by
      simp only [beq, Bool.and_eq_true, beq_iff_eq] at h
      rw [h.1, beqFields_sound fs fs' h.2]
  | .seq s is, .seq s' is', h => by
      simp only [beq, Bool.and_eq_true, beq_iff_eq] at h
      rw [h.1, beqItems_sound is is' h.2]
  -- different constructors: `beq` is `false` by computation
  | .scalar .., .map .., h | .scalar .., .seq .., h | .map .., .scalar .., h
  | .map .., .seq .., h | .seq .., .scalar .., h | .seq .., .map .., h => (Bool.false_ne_true h).elim
theorem beqFields_sound : ∀ (a b : List (String × Node)), beqFields a b = true → a = b
  | [], [], _ => rfl
  | (k, n) :: fs, (k', n') :: fs', h => by
      simp only [beqFields, Bool.and_eq_true, beq_iff_eq] at h
      rw [h.1.1, beq_sound n n' h.1.2, beqFields_sound fs fs' h.2]
  | [], _ :: _, h | _ :: _, [], h => (Bool.false_ne_true h).elim
theorem beqItems_sound : ∀ (a b : List Node), beqItems a b = true → a = b
  | [], [], _ => rfl
  | n :: is, n' :: is', h => by
      simp only [beqItems, Bool.and_eq_true] at h
      rw [beq_sound n n' h.1, beqItems_sound is is' h.2]
  | [], _ :: _, h | _ :: _, [], h => (Bool.false_ne_true h).elim
end

mutual
theorem beq_refl : ∀ (a : Node), beq a a = true
  | .scalar t v s => by simp [beq]
  | .map s fs => by simp [beq, beqFields_refl fs]
  | .seq s is => by simp [beq, beqItems_refl is]
theorem beqFields_refl : ∀ (a : List (String × Node)), beqFields a a = true
  | [] => rfl
  | (k, n) :: fs => by simp [beqFields, beq_refl n, beqFields_refl fs]
theorem beqItems_refl : ∀ (a : List Node), beqItems a a = true
  | [] => rfl
  | n :: is => by simp [beqItems, beq_refl n, beqItems_refl is]
end

instance : DecidableEq Node := fun a b =>
  if h : beq a b = true then isTrue (beq_sound a b h)
  else isFalse (fun e => h (e ▸ beq_refl a))

/-- `IsMissingOrNull` on a non-nil node: the raw tag is `!!null`. -/
def isNull : Node → Bool
  | .scalar t _ _ => t == "!!null"
  | .map .. => false   -- go-yaml never tags collections `!!null`; the harness does not either
  | .seq .. => false

def isEmptyMap : Node → Bool
  | .map _ [] => true
  | _ => false

/-- `len(node.Content)` (a map counts key and value nodes). -/
def contentLen : Node → Nat
  | .scalar .. => 0
  | .map _ fs => 2 * fs.length
  | .seq _ is => is.length

/-- text of the `Value` field (empty for collections). -/
def valueText : Node → String
  | .scalar _ v _ => v
  | _ => ""

def style : Node → Nat
  | .scalar _ _ s => s
  | .map s _ => s
  | .seq s _ => s

def withStyle (n : Node) (s : Nat) : Node :=
  match n with
  | .scalar t v _ => .scalar t v s
  | .map _ fs => .map s fs
  | .seq _ is => .seq s is

mutual
def size : Node → Nat
  | .scalar .. => 1
  | .map _ fs => 1 + sizeFields fs
  | .seq _ is => 1 + sizeItems is
def sizeFields : List (String × Node) → Nat
  | [] => 0
  | (_, n) :: fs => size n + sizeFields fs
def sizeItems : List Node → Nat
  | [] => 0
  | n :: is => size n + sizeItems is
end

end Node

/-- `IsMissingOrNull(*RNode)` -/
def isMissingOrNull : Option Node → Bool
  | none => true
  | some n => n.isNull

end Kust
