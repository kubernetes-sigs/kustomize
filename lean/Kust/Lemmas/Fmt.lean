/- Order lemmas for the formatter's comparators. -/
import Kust.Fmt
namespace Kust.Fmt
open Kust Node

theorem str_not_lt_trans {a b c : String} (h1 : ¬ b < a) (h2 : ¬ c < b) : ¬ c < a :=
  String.not_lt.mpr (String.le_trans (String.not_lt.mp h1) (String.not_lt.mp h2))

theorem not_or_not_of_asymm {p q : Bool} (h : p = true → q = false) : (!p || !q) = true := by
  cases p
  · rfl
  · rw [h rfl]; rfl

theorem lessKey_asymm (order : List String) (a b : String) : lessKey order a b = true → lessKey order b a = false := by
  unfold lessKey
  cases orderIdx order a <;> cases orderIdx order b <;>
    simp only [decide_eq_true_eq, decide_eq_false_iff_not, Bool.false_eq_true, false_implies, implies_true]
  · exact String.lt_asymm                      -- neither is listed: by name
  · omega                                      -- both are listed: by index

theorem lessKey_negtrans (order : List String) (a b c : String) :
    lessKey order b a = false → lessKey order c b = false → lessKey order c a = false := by
  unfold lessKey
  cases orderIdx order a <;> cases orderIdx order b <;> cases orderIdx order c <;>
    simp only [decide_eq_false_iff_not, Bool.true_eq_false, false_implies, implies_true]
  · exact str_not_lt_trans                     -- none is listed: by name
  · omega                                      -- all are listed: by index

theorem leField_trans (order : List String) (a b c : String × Node) :
    leField order a b = true → leField order b c = true → leField order a c = true := by
  unfold leField
  simp only [Bool.not_eq_true']
  exact lessKey_negtrans order a.1 b.1 c.1

theorem leField_total (order : List String) (a b : String × Node) :
    (leField order a b || leField order b a) = true :=
  not_or_not_of_asymm (lessKey_asymm order _ _)

theorem leSeq_trans (sf : String) (a b c : Node) :
    leSeq sf a b = true → leSeq sf b c = true → leSeq sf a c = true := by
  unfold leSeq
  simp only [Bool.not_eq_true', decide_eq_false_iff_not]
  exact str_not_lt_trans

theorem leSeq_total (sf : String) (a b : Node) : (leSeq sf a b || leSeq sf b a) = true :=
  not_or_not_of_asymm fun h => decide_eq_false (String.lt_asymm (of_decide_eq_true h))

end Kust.Fmt
