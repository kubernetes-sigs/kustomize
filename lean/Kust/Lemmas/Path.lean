/- `pathGet` (PathGetter) one part at a time: every kind of part is a lens — what it selects in the receiver and how the
   result is put back — and `pathGet_cons` states the recursion over it with `Out.bind`.  Then: a plain lookup never
   changes the document. -/
import Kust.Lemmas.Fields
import Kust.Lemmas.Basic
namespace Kust.Fns
open Kust Node

/-- the node a field part descends into: the field if it is there, else — under creation — a fresh empty node of the
    kind the next part asks for -/
def fieldChild (c st : Nat) (name next : String) (fs : Fields) : Option Node :=
  match fieldGet name fs with
  | some x => some x
  | none => if c = 0 then none else some (emptyOfKind (partKind next c) st)

@[simp] theorem fieldChild_nocreate (st : Nat) (name next : String) (fs : Fields) :
    fieldChild 0 st name next fs = fieldGet name fs := by
  unfold fieldChild; split <;> simp [*]

theorem fieldChild_create {c : Nat} (hc : c ≠ 0) (st : Nat) (name next : String) (fs : Fields) :
    fieldChild c st name next fs = some ((fieldGet name fs).getD (emptyOfKind (partKind next c) st)) := by
  unfold fieldChild; split <;> simp [*]

theorem partKind_empty (c : Nat) : partKind "" c = c := by
  have h1 : isListIndex "" = false := by decide
  have h2 : isIdxNumber "" = false := by decide
  simp [partKind, h1, h2]

/-- what `[k=v]` appends when nothing matches and creation is on -/
def elemFresh (c st : Nat) (k v : String) : Option Node :=
  if c = 0 then none else if k = "" then some (.scalar "" v st) else some (.map st [(k, .scalar "" v st)])

/-- the tail shared by the three element arms of `pathGet`: the item goes back to its index (a receiver that is no sequence
    is returned as it is) -/
def putElem : Node → Nat → Node → Node
  | .seq s is, j, e => .seq s (setAt is j e)
  | rn, _, _ => rn

/-- one part of a path as a lens: the receiver as the part leaves it (`[k=v]` may have appended an element; a missing
    field is created only when the result is put back) and, unless nothing is found, the node to descend into with the
    way to put it back -/
def step (c st : Nat) (next : String) : Part → Node → Out (Node × Option (Node × (Node → Node)))
  | .index i, rn => (elementIndexer (some i) rn).bind fun r => .ok (rn, r.map fun je => (je.2, putElem rn je.1))
  | .last, rn => (elementIndexer none rn).bind fun r => .ok (rn, r.map fun je => (je.2, putElem rn je.1))
  | .elem k v, rn => (elementMatcher k v (elemFresh c st k v) rn).bind fun r =>
      .ok (r.1, r.2.map fun je => (je.2, putElem r.1 je.1))
  | .field name, .map s fs =>
      .ok (.map s fs, (fieldChild c st name next fs).map fun x => (x, fun x' => .map s (fieldPut name x' fs)))
  | .field _, rn => if rn.isNull then .ok (rn, none) else .err "kind"

/-- **`PathGetter`, one part at a time**: classify the part, take the step, descend, put back -/
theorem pathGet_cons (ns : String → Bool) (c st : Nat) (part : String) (rest : List String) (rn : Node) :
    pathGet ns c st (part :: rest) rn =
      (classify part).bind fun p => (step c st (rest.head?.getD "") p rn).bind fun r =>
        match r.2 with
        | none => .ok (r.1, none)
        | some (x, put) => (pathGet ns c st rest x).bind fun q => .ok (put q.1, q.2) := by
  -- the tail common to the three kinds of element part
  have put (rn' : Node) (j : Nat) (o : Out (Node × Option Node)) :
      (match o with
        | .ok (e', r) => (match rn' with | .seq s is => Out.ok (Node.seq s (setAt is j e'), r) | _ => .ok (rn', r))
        | .err c => .err c
        | .panic c => .panic c) = o.bind fun q => .ok (putElem rn' j q.1, q.2) := by
    cases o with
    | ok q => cases rn' <;> rfl
    | _ => rfl
  rw [pathGet]
  cases classify part with
  | err e => rfl
  | panic e => rfl
  | ok p =>
    cases p with
    | elem k v =>
      dsimp only [step, elemFresh, Out.ok_bind]
      cases elementMatcher k v _ rn with
      | ok r =>
        obtain ⟨rn', r⟩ := r
        cases r with
        | none => rfl
        | some je => exact put rn' je.1 _
      | _ => rfl
    | field name =>
      cases rn with
      | map s fs =>
        simp only [isNull_map, Bool.false_eq_true, if_false, step, fieldChild, fieldPut, Out.ok_bind]
        cases hg : fieldGet name fs with
        | some x => simp only [Option.map_some]; cases pathGet ns c st rest x <;> rfl
        | none =>
          by_cases h0 : c = 0
          · simp [h0]
          · simp only [h0, if_false, Option.map_some]; cases pathGet ns c st rest _ <;> rfl
      | scalar t v s => dsimp only [step, Out.ok_bind]; split <;> rfl
      | seq s is => rfl
    | _ =>
      -- `3` and `-`
      dsimp only [step, Out.ok_bind]
      generalize elementIndexer _ rn = o
      cases o with
      | ok r => cases r with
        | none => rfl
        | some je => exact put rn je.1 _
      | _ => rfl

/-- the last field part: `Lookup(name)` / `LookupCreate(kind, name)` on a mapping -/
theorem pathGet_field_last {ns : String → Bool} {c st : Nat} {name : String} {s : Nat} {fs : Fields}
    (hc : classify name = .ok (.field name)) :
    pathGet ns c st [name] (.map s fs) =
      match fieldChild c st name "" fs with
      | none => .ok (.map s fs, none)
      | some x => .ok (.map s (fieldPut name x fs), some x) := by
  rw [pathGet_cons, hc]
  simp only [Out.ok_bind, step, List.head?_nil, Option.getD_none]
  cases fieldChild c st name "" fs <;> simp [pathGet]

/-- `sel` is nothing, or an index into the sequence `rn` together with the item there -/
def SelectsItem (rn : Node) (sel : Option (Nat × Node)) : Prop :=
  ∀ j e, sel = some (j, e) → ∃ s is, rn = .seq s is ∧ is[j]? = some e

/-- putting a selected item back where it was found changes nothing (`he` has the shape of what `step`'s element arms
    return) -/
theorem SelectsItem.put_self {rn : Node} {sel : Option (Nat × Node)} (hsel : SelectsItem rn sel) {x : Node}
    {put : Node → Node} (he : sel.map (fun je => (je.2, putElem rn je.1)) = some (x, put)) : put x = rn := by
  obtain ⟨⟨j, e⟩, rfl, ⟨⟩⟩ := Option.map_eq_some_iff.1 he
  obtain ⟨s, is, rfl, hje⟩ := hsel j e rfl
  rw [putElem, setAt, set_of_getElem? hje]

theorem elementIndexer_selectsItem {idx : Option Nat} {rn : Node} {sel : Option (Nat × Node)} :
    elementIndexer idx rn = .ok sel → SelectsItem rn sel := by
  fun_cases elementIndexer idx rn
  -- of the arms, "last" and "i" on a sequence report an element
  all_goals rintro ⟨⟩ j e ⟨⟩
  · exact ⟨_, _, rfl, List.getLast?_eq_getElem? ▸ ‹_›⟩
  · exact ⟨_, _, rfl, ‹_›⟩

theorem elementMatcher_nocreate {k v : String} {rn rn' : Node} {sel : Option (Nat × Node)} :
    elementMatcher k v none rn = .ok (rn', sel) → rn' = rn ∧ SelectsItem rn sel := by
  generalize hcr : (none : Option Node) = cr
  fun_cases elementMatcher k v cr rn
  -- the successful arms: found, found past the end, appended (asks for `Create`), not found, null receiver
  all_goals intro h; cases h
  · exact ⟨rfl, fun j e he => by cases he; exact ⟨_, _, rfl, ‹_›⟩⟩
  · exact ⟨rfl, nofun⟩
  · cases hcr
  · exact ⟨rfl, nofun⟩
  · exact ⟨rfl, nofun⟩

theorem step_nocreate {st : Nat} {next : String} {p : Part} {rn rn' : Node} {r : Option (Node × (Node → Node))} :
    step 0 st next p rn = .ok (rn', r) → rn' = rn ∧ ∀ x put, r = some (x, put) → put x = rn := by
  fun_cases step 0 st next p rn
  -- an element part selects an item of the receiver
  case case1 | case2 =>  -- `3`, `-`
    intro h
    obtain ⟨sel, hm, h⟩ := Out.bind_eq_ok.1 h
    cases h
    exact ⟨rfl, fun _ _ => (elementIndexer_selectsItem hm).put_self⟩
  case case3 =>  -- `[k=v]`
    intro h
    obtain ⟨⟨rn1, sel⟩, hm, h⟩ := Out.bind_eq_ok.1 h
    cases h
    obtain ⟨rfl, hsel⟩ := elementMatcher_nocreate hm   -- (`elemFresh 0 st k v` is `none`, by evaluation)
    exact ⟨rfl, fun _ _ => hsel.put_self⟩
  case case4 name s fs =>  -- a field of a mapping
    intro h
    cases h
    refine ⟨rfl, fun x put he => ?_⟩
    obtain ⟨y, hg, ⟨⟩⟩ := Option.map_eq_some_iff.1 he
    rw [fieldChild_nocreate] at hg
    exact congrArg (Node.map s) (fieldPut_self name fs _ hg)
  -- a field of a null: nothing found (of another node: an error)
  all_goals rintro ⟨⟩
  exact ⟨rfl, nofun⟩

/-- **lookup is read-only**: `PathGetter` without `Create` returns the receiver unchanged. -/
theorem pathGet_nocreate_doc (ns : String → Bool) (style : Nat) :
    ∀ (p : List String) (d d' : Node) (r : Option Node),
      pathGet ns 0 style p d = .ok (d', r) → d' = d := by
  intro p
  induction p with
  | nil => intro d d' r h; simp [pathGet] at h; exact h.1.symm
  | cons part rest ih =>
    intro d d' r h
    rw [pathGet_cons] at h
    obtain ⟨p, _, h⟩ := Out.bind_eq_ok.1 h
    obtain ⟨⟨rn', sel⟩, hstep, h⟩ := Out.bind_eq_ok.1 h
    obtain ⟨rfl, hput⟩ := step_nocreate hstep
    cases sel with
    | none => simp at h; exact h.1.symm
    | some xp =>
      obtain ⟨x, put⟩ := xp
      simp only [Out.bind_eq_ok, Out.ok.injEq, Prod.mk.injEq] at h
      obtain ⟨⟨x', r'⟩, hrec, rfl, _⟩ := h
      -- the child comes back unchanged, and putting it back changes nothing
      rw [ih _ _ _ hrec, hput x put rfl]

end Kust.Fns
