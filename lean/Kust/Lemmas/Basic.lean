/- Facts used across the proof files that are about no model in particular. -/
import Kust.Node
namespace Kust

/-- Case analysis on an `if` under any predicate.  As a term it is far cheaper for Lean to check than `split` when the
    branches are large (the `run` of the localizer, the schema operations). -/
theorem of_ite {α} {C : α → Prop} {c : Prop} [Decidable c] {a b : α} (ha : c → C a) (hb : ¬ c → C b) :
    C (if c then a else b) := by
  split
  · exact ha ‹_›
  · exact hb ‹_›

/-- the same for an `if` in a hypothesis (`split at h` is dear when what follows the `if` is large) -/
theorem ite_eq_cases {α} {c : Prop} [Decidable c] {a b r : α} (h : (if c then a else b) = r) :
    c ∧ a = r ∨ ¬ c ∧ b = r := by
  split at h
  · exact Or.inl ⟨‹_›, h⟩
  · exact Or.inr ⟨‹_›, h⟩

theorem ite_ne {α} {c : Prop} [Decidable c] {a b d : α} (ha : c → a ≠ d) (hb : ¬ c → b ≠ d) : (if c then a else b) ≠ d :=
  of_ite (C := (· ≠ d)) ha hb

theorem set_of_getElem? {α} {l : List α} {i : Nat} {a : α} (h : l[i]? = some a) : l.set i a = l := by
  obtain ⟨hlt, rfl⟩ := List.getElem?_eq_some_iff.mp h
  exact List.set_getElem_self hlt

theorem ext_of_getElem? {α} {l l' : List α} (hlen : l'.length = l.length)
    (h : ∀ (i : Nat) a, l[i]? = some a → l'[i]? = some a) : l' = l := by
  apply List.ext_getElem?
  intro i
  cases hi : l[i]? with
  | none => rw [List.getElem?_eq_none_iff] at hi ⊢; omega
  | some a => exact h i a hi

/-! ### the `Out` monad as the proofs see it

The models spell `bind` out as `match x with | .ok a => f a | .err c => .err c | .panic c => .panic c`.  Where a proof wants a
model function as a `bind` chain (`pathGet_cons`, `filterItems_cons`, `filter_seq`, `filter_map` …) the function
gets ONE equation that states it so (for a single cascade by `cases x <;> rfl`: the matchers differ, so plain `rfl` does not
do), and from
there on a hypothesis `… = .ok b` is taken apart by `bind_eq_ok` instead of by `split`.  These lemmas are about `.bind`; the
`>>=` forms in `Node.lean` are for `do` blocks, which no model uses. -/
namespace Out

variable {α β : Type}

@[simp] theorem ok_bind (a : α) (f : α → Out β) : (Out.ok a).bind f = f a := rfl
@[simp] theorem err_bind (c : String) (f : α → Out β) : (Out.err c : Out α).bind f = .err c := rfl
@[simp] theorem panic_bind (c : String) (f : α → Out β) : (Out.panic c : Out α).bind f = .panic c := rfl

theorem ite_bind (c : Prop) [Decidable c] (x y : Out α) (f : α → Out β) :
    (if c then x else y).bind f = if c then x.bind f else y.bind f := by
  split <;> rfl

theorem bind_eq_ok {x : Out α} {f : α → Out β} {b : β} :
    x.bind f = .ok b ↔ ∃ a, x = .ok a ∧ f a = .ok b := by
  cases x <;> simp

theorem isPanic_bind {x : Out α} {f : α → Out β} (hx : x.isPanic = false) (hf : ∀ a, (f a).isPanic = false) :
    (x.bind f).isPanic = false := by
  cases x with
  | ok a => exact hf a
  | err c => rfl
  | panic c => cases hx

end Out
end Kust
