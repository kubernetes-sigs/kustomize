/- Lemmas about the renaming transformers of `Kust.Res`.  Each step is a pure rewrite: `nsStep`, and for the prefix and the
   suffix step `R.affix` behind a guard that only reads the original id (`guarded`).  Each rewrite does nothing, or records
   the previous id and then writes name / namespace / prefixes / suffixes (`Renamed`).  What holds of that shape
   holds of every chain of layers (`layers_renamed`); on a named, aligned resource the chain cannot fail
   (`layers_total`). -/
import Kust.Res
import Kust.Lemmas.Basic
namespace Kust

namespace Res

theorem storePrev_name (cs : Gvk → Bool) (r : R) : (r.storePrev cs).name = r.name := rfl
theorem storePrev_gvk (cs : Gvk → Bool) (r : R) : (r.storePrev cs).gvk = r.gvk := rfl
theorem storePrev_ns (cs : Gvk → Bool) (r : R) : (r.storePrev cs).ns = r.ns := rfl

/-- the invariant of the renaming steps: the three recorded lists are aligned, name and kind are not empty -/
def R.Good (r : R) : Prop := r.Aligned ∧ r.Named

variable {cs : Gvk → Bool} {skip : String → Bool} {r r' : R} {l : Layer} {ls : List Layer}

/-! ### the shape of a renaming -/

/-- `r'` comes from `r` by steps that each record the previous id and then write name, namespace, prefixes, suffixes
    (a name staying a name): the only way the transformers touch the bookkeeping. -/
inductive Renamed (cs : Gvk → Bool) (r : R) : R → Prop
  | refl : Renamed cs r r
  | step {r1 : R} {name ns : String} {pre suf : List String} (h : Renamed cs r r1) (hn : r1.name ≠ "" → name ≠ "") :
      Renamed cs r { r1.storePrev cs with name := name, ns := ns, prefixes := pre, suffixes := suf }

namespace Renamed

theorem trans {r1 r2 : R} (h1 : Renamed cs r r1) (h2 : Renamed cs r1 r2) : Renamed cs r r2 := by
  induction h2 with
  | refl => exact h1
  | step _ hn ih => exact ih.step hn

theorem gvk (h : Renamed cs r r') : r'.gvk = r.gvk := by
  induction h with
  | refl => rfl
  | step _ _ ih => exact ih

theorem named (h : Renamed cs r r') (hn : r.name ≠ "") : r'.name ≠ "" := by
  induction h with
  | refl => exact hn
  | step _ hn' ih => exact hn' ih

theorem good (h : Renamed cs r r') (hg : r.Good) : r'.Good := by
  induction h with
  | refl => exact hg
  | step _ hn ih =>
    -- alignment speaks of the three recorded lists only, which the writes after `storePrev` leave alone
    have ha := storePrev_aligned cs _ ih.1 ih.2
    exact ⟨ha, hn ih.2.1, ih.2.2⟩

end Renamed

/-! ### the namespace step -/

theorem nsStep_eq (cs : Gvk → Bool) (n : String) (r : R) :
    nsStep cs n r = if n = "" then r else
      { r.storePrev cs with
        ns := if cs r.gvk then r.ns else n,
        name := if r.gvk.kind = "Namespace" ∧ r.gvk.group = "" ∧ r.gvk.version = "v1" then n else r.name } := by
  refine ite_congr rfl (fun _ => rfl) fun _ => ?_
  -- the two writes of `nsStep`, for each outcome of its two tests
  by_cases hc : cs r.gvk = true <;>
    by_cases hk : r.gvk.kind = "Namespace" ∧ r.gvk.group = "" ∧ r.gvk.version = "v1" <;>
    simp [hc, hk, R.storePrev]

theorem nsStep_empty (cs : Gvk → Bool) (r : R) : nsStep cs "" r = r := by simp [nsStep]

@[simp] theorem nsStep_ns (n : String) : (nsStep cs n r).ns = if n = "" ∨ cs r.gvk = true then r.ns else n := by
  rw [nsStep_eq]; by_cases hn : n = "" <;> by_cases hc : cs r.gvk = true <;> simp [hn, hc]

@[simp] theorem nsStep_name (n : String) (hk : r.gvk.kind ≠ "Namespace") : (nsStep cs n r).name = r.name := by
  rw [nsStep_eq]; split <;> simp [hk]

theorem nsStep_renamed (n : String) : Renamed cs r (nsStep cs n r) := by
  rw [nsStep_eq]
  split
  · exact .refl
  · exact Renamed.refl.step fun h => by split <;> assumption  -- the name written is `n` or the old name

/-! ### the affix steps: a rewrite behind a guard -/

/-- what `prefixStep` (`suf = ""`) and `suffixStep` (`pre = ""`) do to a resource they do not skip -/
def R.affix (cs : Gvk → Bool) (pre suf : String) (r : R) : R :=
  if pre = "" ∧ suf = "" then r
  else { r.storePrev cs with
         name := pre ++ r.name ++ suf, prefixes := appendCsv r.prefixes pre, suffixes := appendCsv r.suffixes suf }

theorem affix_empty (cs : Gvk → Bool) (r : R) : r.affix cs "" "" = r := if_pos ⟨rfl, rfl⟩

@[simp] theorem affix_name (pre suf : String) : (r.affix cs pre suf).name = pre ++ r.name ++ suf := by
  unfold R.affix; split <;> simp [*]
@[simp] theorem affix_ns (pre suf : String) : (r.affix cs pre suf).ns = r.ns := by unfold R.affix; split <;> rfl

theorem affix_renamed (pre suf : String) : Renamed cs r (r.affix cs pre suf) := by
  unfold R.affix
  split
  · exact .refl
  · exact Renamed.refl.step fun h => by simp [String.append_eq_empty_iff, h]

/-- what `prefixStep` and `suffixStep` share: `f` unless the kind of the ORIGINAL id is skipped -/
def guarded (skip : String → Bool) (f : R → R) (r : R) : Out R :=
  r.orgId.bind fun oid => .ok (if skip oid.gvk.kind then r else f r)

/-- `prefixStep` and `suffixStep` are this guard around the two halves of `R.affix` (mirror images, one proof) -/
theorem affixStep_eq (cs : Gvk → Bool) (skip : String → Bool) (a : String) (r : R) :
    prefixStep cs skip a r = guarded skip (R.affix cs a "") r ∧
    suffixStep cs skip a r = guarded skip (R.affix cs "" a) r := by
  unfold prefixStep suffixStep guarded R.affix
  cases r.orgId with
  | err c | panic c => exact ⟨rfl, rfl⟩
  | ok oid =>
    by_cases ha : a = ""
    · simp [ha, appendCsv]  -- nothing is recorded, and what is written is what was there
    · simp only [Out.ok_bind, appendCsv, ne_eq, ha, not_false_eq_true, false_and, and_false, if_true, if_false,
        String.append_empty, String.empty_append]
      constructor <;> split <;> rfl  -- skipped or not

variable {f : R → R}

theorem guarded_ok (he : guarded skip f r = .ok r') : r' = r ∨ r' = f r := by
  obtain ⟨oid, _, h⟩ := Out.bind_eq_ok.mp he
  cases h; split <;> simp

theorem guarded_noskip (he : guarded (fun _ => false) f r = .ok r') : r' = f r := by
  obtain ⟨oid, _, h⟩ := Out.bind_eq_ok.mp he
  cases h; rfl

theorem guarded_renamed (he : guarded skip f r = .ok r') (hf : Renamed cs r (f r)) : Renamed cs r r' := by
  rcases guarded_ok he with rfl | rfl
  · exact .refl
  · exact hf

/-- the guard fails only if `OrgId` does, which it cannot on an aligned resource -/
theorem guarded_total (skip : String → Bool) (f : R → R) (ha : r.Aligned) : ∃ r', guarded skip f r = .ok r' := by
  obtain ⟨i, hi⟩ := orgId_ok_of_aligned ha
  exact ⟨_, Out.bind_eq_ok.mpr ⟨i, hi, rfl⟩⟩

/-! ### one layer, a chain of layers -/

theorem layerStep_ok : layerStep cs skip l r = .ok r' ↔ ∃ r0,
    guarded skip (R.affix cs l.pre "") (nsStep cs l.ns r) = .ok r0 ∧ guarded skip (R.affix cs "" l.suf) r0 = .ok r' := by
  rw [layerStep, (affixStep_eq cs skip l.pre _).1]
  cases guarded skip (R.affix cs l.pre "") (nsStep cs l.ns r) <;> simp [(affixStep_eq cs skip l.suf _).2]

theorem layerStep_renamed (he : layerStep cs skip l r = .ok r') : Renamed cs r r' := by
  obtain ⟨r0, h0, h1⟩ := layerStep_ok.mp he
  exact ((nsStep_renamed _).trans (guarded_renamed h0 (affix_renamed _ _))).trans
    (guarded_renamed h1 (affix_renamed _ _))

theorem layerStep_ns (he : layerStep cs skip l r = .ok r') : r'.ns = (nsStep cs l.ns r).ns := by
  obtain ⟨r0, h0, h1⟩ := layerStep_ok.mp he
  -- an affix step, taken or skipped, leaves the namespace alone
  rcases guarded_ok h0 with rfl | rfl <;> rcases guarded_ok h1 with rfl | rfl <;> simp only [affix_ns]

theorem layerStep_name (he : layerStep cs (fun _ => false) l r = .ok r') (hk : r.gvk.kind ≠ "Namespace") :
    r'.name = l.pre ++ r.name ++ l.suf := by
  obtain ⟨r0, h0, h1⟩ := layerStep_ok.mp he
  rw [guarded_noskip h1, guarded_noskip h0]
  simp [hk]

theorem layerStep_empty (cs : Gvk → Bool) (skip : String → Bool) (ha : r.Aligned) : layerStep cs skip {} r = .ok r := by
  -- both affix steps are `guarded skip (R.affix cs "" "")`, which returns `r`, rewritten (to itself) or not
  obtain ⟨r', h⟩ := guarded_total skip (R.affix cs "" "") ha
  have hr : r' = r := by simpa [affix_empty] using guarded_ok h
  rw [hr] at h
  exact layerStep_ok.mpr ⟨r, by rwa [nsStep_empty], h⟩

theorem layerStep_total (skip : String → Bool) (l : Layer) (h : r.Good) : ∃ r', layerStep cs skip l r = .ok r' := by
  have g := (nsStep_renamed (cs := cs) l.ns).good h
  obtain ⟨_, h0⟩ := guarded_total skip (R.affix cs l.pre "") g.1
  obtain ⟨_, h1⟩ := guarded_total skip (R.affix cs "" l.suf) ((guarded_renamed h0 (affix_renamed _ _)).good g).1
  exact ⟨_, layerStep_ok.mpr ⟨_, h0, h1⟩⟩

theorem layers_renamed (he : layers cs skip ls r = .ok r') : Renamed cs r r' := by
  fun_induction layers cs skip ls r with
  | case1 => cases he; exact .refl
  | case2 l ls r r1 h1 ih => exact (layerStep_renamed h1).trans (ih he)
  | case3 | case4 => cases he

theorem layers_good (he : layers cs skip ls r = .ok r') (h : r.Good) : r'.Good := (layers_renamed he).good h

/-- **on a named, aligned resource a chain of layers always succeeds** (no error, no panic) -/
theorem layers_total (cs : Gvk → Bool) (skip : String → Bool) (ls : List Layer) (r : R) (h : r.Good) :
    ∃ r', layers cs skip ls r = .ok r' := by
  induction ls generalizing r with
  | nil => exact ⟨r, rfl⟩
  | cons l ls ih =>
    obtain ⟨r1, h1⟩ := layerStep_total skip l h
    rw [layers, h1]
    exact ih r1 ((layerStep_renamed h1).good h)

theorem layers_no_panic (cs : Gvk → Bool) (skip : String → Bool) (ls : List Layer) (r : R) (h : r.Good) :
    (layers cs skip ls r).isPanic = false := by
  obtain ⟨r', he⟩ := layers_total cs skip ls r h
  rw [he]; rfl

end Res
end Kust
