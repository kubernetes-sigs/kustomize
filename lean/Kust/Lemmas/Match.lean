/- The PathMatcher model on success: what each primitive, each kind of path part and a visit of the elements return
   when they return `.ok` (per kind of part one lemma, with one arm for each way to succeed), and the
   induction principles of a visit and of the reference interpretation `denote`.  The `Out` cascades of `Kust.Match` are
   taken apart here and nowhere else; the theorems about the whole walk (`Props/C14b`) are read off these. -/
import Kust.Match
import Kust.Lemmas.Pos
namespace Kust.Match
open Kust Node Fns

/-! ### the primitives -/

theorem elementsOf_ok {rn : Node} {is : List Node} (h : elementsOf rn = .ok is) :
    (∃ s, rn = .seq s is) ∨ ((∃ t v st, rn = .scalar t v st) ∧ is = []) := by
  cases rn with
  | seq s js => cases h; exact Or.inl ⟨s, rfl⟩
  | scalar t v st =>
    simp only [elementsOf] at h
    split at h <;> cases h
    exact Or.inr ⟨⟨t, v, st, rfl⟩, rfl⟩
  | map s fs => cases h

theorem appendElem_ok {rn e rn' : Node} (h : appendElem rn e = .ok rn') :
    ∃ s is, rn = .seq s is ∧ rn' = .seq s (is ++ [e]) := by
  cases rn <;> cases h
  exact ⟨_, _, rfl, rfl⟩

theorem fieldMatcher_map {name : String} (hn : name ≠ "") (s : Nat) (fs : Fields) :
    fieldMatcher name none (some (.map s fs)) = .ok (fieldGet name fs) := by
  simp only [fieldMatcher, hn, if_false, isNull_map, Bool.false_eq_true]
  cases fieldGet name fs <;> rfl

theorem fieldMatcher_some {name : String} {rn x : Node} (hn : name ≠ "")
    (h : fieldMatcher name none (some rn) = .ok (some x)) : ∃ s fs, rn = .map s fs ∧ fieldGet name fs = some x := by
  cases rn with
  | map s fs => exact ⟨s, fs, rfl, Out.ok.inj ((fieldMatcher_map hn s fs).symm.trans h)⟩
  | _ =>
    simp only [fieldMatcher, hn, if_false] at h
    split at h <;> cases h

theorem fieldSetter_fresh {ns : String → Bool} {name : String} {v rn rn1 : Node} {r : Option Node} {keep ovr : Bool}
    (hv : v.isNull = false) (h : fieldSetter ns name (some v) keep ovr rn = .ok (rn1, r)) :
    ∃ s fs, rn = .map s fs ∧ (fieldGet name fs = none → rn1 = .map s (fs ++ [(name, quoteIfNonString ns ovr v)])) := by
  simp only [fieldSetter, Option.map_some, quoteIfNonString_isNull, hv, Bool.false_eq_true, false_and, if_false] at h
  cases rn with
  | map s fs => exact ⟨s, fs, rfl, fun hg => by simp [hg] at h; exact h.1.symm⟩
  | _ => simp only at h; split at h <;> simp at h

/-! ### a visit of the elements -/

theorem visit_induct (f : Nat → Node → Out (Node × List Pos)) (R : Nat → List Node → List Node → List Pos → Prop)
    (nil : ∀ i, R i [] [] [])
    (cons : ∀ i e es e' ps es' qs, f i e = .ok (e', ps) → R (i + 1) es es' qs →
      R i (e :: es) (e' :: es') (ps.map (Step.idx i :: ·) ++ qs)) :
    ∀ (is : List Node) (i : Nat) (is' : List Node) (ps : List Pos), visit f i is = .ok (is', ps) → R i is is' ps := by
  intro is i
  fun_induction visit f i is
  case case1 i => intro _ _ h; cases h; exact nil i
  case case2 i e es e' ps h1 es' qs h2 ih => intro _ _ h; cases h; exact cons i e es e' ps es' qs h1 (ih _ _ h2)
  all_goals intro _ _ h; cases h

section
variable {f : Nat → Node → Out (Node × List Pos)} {is is' : List Node} {ps : List Pos} {i : Nat}

theorem visit_id (hf : ∀ i e e' ps, f i e = .ok (e', ps) → e' = e) (h : visit f i is = .ok (is', ps)) : is' = is :=
  visit_induct f (fun _ is is' _ => is' = is) (fun _ => rfl)
    (fun _ _ _ _ _ _ _ h1 ih => by rw [hf _ _ _ _ h1, ih]) is i is' ps h

theorem visit_denote {sel : Node → Bool} {sub : Node → List Pos}
    (hf : ∀ j e e' qs, f j e = .ok (e', qs) → qs = if sel e then sub e else [])
    (h : visit f i is = .ok (is', ps)) : ps = denoteElems sel sub i is :=
  visit_induct f (fun i is _ ps => ps = denoteElems sel sub i is) (fun _ => rfl)
    (fun i e _ _ _ _ _ h1 ih => by rw [hf _ _ _ _ h1, ih, denoteElems]; split <;> rfl) is i is' ps h

theorem visit_resolves (hf : ∀ j e e' qs, f j e = .ok (e', qs) → Resolves e' qs) (s : Nat)
    (h : visit f 0 is = .ok (is', ps)) : Resolves (.seq s is') ps := by
  -- the elements already visited are carried along as `pre`, so that the next element's index is `pre.length`
  have := visit_induct f (fun i _ is' ps => ∀ pre : List Node, pre.length = i → Resolves (.seq s (pre ++ is')) ps)
    (fun _ _ _ _ hp => by simp at hp)
    (fun i e _ e' ps es' qs h1 ih pre hpre pos hp => by
      rcases List.mem_append.mp hp with hp | hp
      · exact Resolves.cons (by simp [getAt, ← hpre]) (hf _ _ _ _ h1) pos hp
      · simpa using ih (pre ++ [e']) (by simp [hpre]) pos hp) is 0 is' ps h
  simpa using this [] rfl
end

/-! ### the reference interpretation -/

theorem denoteElems_mem {sel : Node → Bool} {sub : Node → List Pos} {pos : Pos} :
    ∀ (is : List Node) (i : Nat), pos ∈ denoteElems sel sub i is →
      ∃ j e q, is[j]? = some e ∧ sel e = true ∧ q ∈ sub e ∧ pos = Step.idx (i + j) :: q
  | [], _, h => nomatch h
  | e :: es, i, h => by
    rcases List.mem_append.mp h with h | h
    · split at h
      · obtain ⟨q, hq, rfl⟩ := List.mem_map.mp h
        exact ⟨0, e, q, rfl, ‹_›, hq, rfl⟩
      · cases h
    · obtain ⟨j, e', q, hj, hs, hq, rfl⟩ := denoteElems_mem es (i + 1) h
      exact ⟨j + 1, e', q, hj, hs, hq, by rw [Nat.add_right_comm, Nat.add_assoc]⟩

/-- induction over the reference interpretation: what is kept by each way `denote` builds a list of positions holds of
    the positions every path denotes -/
theorem denote_induct (hitB : String → Node → Bool) (P : Node → List Pos → Prop)
    (nil : ∀ d, P d []) (self : ∀ d, P d [[]])
    (cons : ∀ {a d x qs}, getAt [a] d = some x → P x qs → P d (qs.map (a :: ·)))
    (elems : ∀ {sel sub}, (∀ e, P e (sub e)) → ∀ s is, P (.seq s is) (denoteElems sel sub 0 is)) :
    ∀ (p : List String) (d : Node), P d (denote hitB p d)
  | [], d => self d
  | part :: rest, d => by
    have ih := denote_induct hitB P nil self cons elems rest
    rw [denote]
    refine of_ite (fun _ => ?_) fun _ => of_ite (fun _ => ?_) fun _ => of_ite (fun _ => ?_) fun _ => ?_
    · fun_cases denoteIdx (denote hitB rest) part d
      · exact cons (getAt_idx [] ‹_›) (ih _)
      all_goals exact nil _
    · unfold denoteSel  -- (`fun_cases` would compare `splitIndexNameValue part` with a string literal)
      split
      · exact of_ite (fun _ => elems (fun _ => self _) _ _) fun _ => elems ih _ _
      · exact nil _
    · fun_cases denoteStar (denote hitB rest) d
      · exact elems ih _ _
      · exact nil _
    · fun_cases denoteField (denote hitB rest) part d
      · exact cons (getAt_key [] ‹_›) (ih _)
      all_goals exact nil _

/-! ### the five kinds of path part -/
section
variable {hit : String → Node → Out Bool} {ns : String → Bool} {rec : Node → Out (Node × List Pos)}
variable {c : Nat} {next part : String} {rn d' : Node} {ps : List Pos}

theorem matchEmpty_ok (h : matchEmpty rec c rn = .ok (d', ps)) :
    rec rn = .ok (d', ps) ∨ (c = 0 ∧ d' = rn ∧ ps = []) := by
  revert h
  fun_cases matchEmpty rec c rn
  case case1 => exact Or.inl
  case case2 hc => intro h; cases h; exact Or.inr ⟨hc, rfl, rfl⟩
  all_goals intro h; cases h

/-- an index part succeeds on a sequence only (grown by one fresh element when creating and the index is its length):
    the walk goes on in the element at the index -/
theorem matchIdx_ok (h : matchIdx rec c next part rn = .ok (d', ps)) :
    ∃ i s is e e' qs, atoi? part = some i ∧ is[i.toNat]? = some e ∧ rec e = .ok (e', qs) ∧
      d' = .seq s (is.set i.toNat e') ∧ ps = qs.map (Step.idx i.toNat :: ·) ∧
      (rn = .seq s is ∨ c ≠ 0 ∧ ∃ is0, rn = .seq s is0 ∧ is = is0 ++ [emptyOfKind (partKind next c) 0]) := by
  revert h
  fun_cases matchIdx rec c next part rn
  case case3 i hi _ is his grown rn1 is1 hg e he e' qs hr =>
    -- the one arm that succeeds: `hg` says whether the receiver was grown, `he` finds the element, `hr` walks on in it
    intro h
    cases h
    refine ⟨i, ?_⟩
    dsimp only [grown] at hg
    obtain ⟨hc, hg⟩ | ⟨-, hg⟩ := ite_eq_cases hg
    · -- grown by a fresh element
      split at hg <;> cases hg
      obtain ⟨s, _, rfl, rfl⟩ := appendElem_ok ‹_›
      cases his
      exact ⟨s, _, e, e', qs, hi, he, hr, rfl, rfl, Or.inr ⟨hc.2, _, rfl, rfl⟩⟩
    · cases hg
      rcases elementsOf_ok his with ⟨s, rfl⟩ | ⟨_, rfl⟩
      · exact ⟨s, _, e, e', qs, hi, he, hr, rfl, rfl, Or.inl rfl⟩
      · cases he
  all_goals intro h; cases h

theorem matchStar_ok (h : matchStar rec rn = .ok (d', ps)) :
    ((∃ t v st, rn = .scalar t v st) ∧ d' = rn ∧ ps = []) ∨
    ∃ s is is', rn = .seq s is ∧ visit (fun _ e => rec e) 0 is = .ok (is', ps) ∧ d' = .seq s is' := by
  revert h
  fun_cases matchStar rec rn
  case case1 is his is' _ hv =>
    intro h
    cases h
    rcases elementsOf_ok his with ⟨s, rfl⟩ | ⟨⟨t, v, st, rfl⟩, rfl⟩
    · exact Or.inr ⟨s, is, is', rfl, hv, rfl⟩
    · cases hv
      exact Or.inl ⟨⟨t, v, st, rfl⟩, rfl, rfl⟩
  all_goals intro h; cases h

/-- what `[k=v]` asks of one element -/
abbrev selElem (hit : String → Node → Out Bool) (rec : Node → Out (Node × List Pos)) (k pat : String) :
    Nat → Node → Out (Node × List Pos) :=
  if k = "" then primElem hit pat else fieldElem hit rec k pat

/-- an element of a `[k=v]` visit is either walked on, or left as it is and reported as itself or not at all -/
theorem selElem_ok {k pat : String} {j : Nat} {e e' : Node} {qs : List Pos}
    (h : selElem hit rec k pat j e = .ok (e', qs)) : rec e = .ok (e', qs) ∨ (e' = e ∧ (qs = [] ∨ qs = [[]])) := by
  unfold selElem at h
  split at h
  · revert h
    fun_cases primElem hit pat j e <;> intro h <;> cases h <;> simp
  · revert h
    fun_cases fieldElem hit rec k pat j e
    case case2 => exact Or.inl
    all_goals intro h; cases h
    all_goals simp

/-- a selector part reports what a visit of `js` finds, where `js` is the elements of the sequence or — when creating,
    after a first visit that found nothing — the elements as that visit left them plus a new `{k: v}` (or `v`); a null
    scalar has no elements: nothing is reported, and that is a success only when not creating -/
theorem matchSel_ok (h : matchSel hit rec c part rn = .ok (d', ps)) :
    ∃ k pat, splitIndexNameValue part = some (k, pat) ∧
      (((∃ t v st, rn = .scalar t v st) ∧ c = 0 ∧ d' = rn ∧ ps = []) ∨
       ∃ s is js is', rn = .seq s is ∧ visit (selElem hit rec k pat) 0 js = .ok (is', ps) ∧ d' = .seq s is' ∧
        (js = is ∨ c ≠ 0 ∧ ∃ is1 e, visit (selElem hit rec k pat) 0 is = .ok (is1, []) ∧ js = is1 ++ [e])) := by
  -- (`fun_cases matchSel` takes seconds: to state the arms Lean evaluates `splitIndexNameValue part` as far as it goes)
  unfold matchSel at h
  split at h
  · cases h
  next k pat hsp =>
  refine ⟨k, pat, hsp, ?_⟩
  dsimp only at h
  split at h
  next is his =>
    split at h
    next is1 ps1 hv =>
      replace h := ite_eq_cases h
      obtain ⟨hc, h⟩ | ⟨hc, h⟩ := h
      · -- the first visit (`hv`) finds something, or nothing is to be created
        cases h
        rcases elementsOf_ok his with ⟨s, rfl⟩ | ⟨⟨t, v, st, rfl⟩, rfl⟩
        · exact Or.inr ⟨s, is, is, is1, rfl, hv, rfl, Or.inl rfl⟩
        · cases hv
          exact Or.inl ⟨⟨t, v, st, rfl⟩, by simpa using hc, rfl, rfl⟩
      · -- it finds nothing: an element is appended (`ha`) and found by the second visit (`hv2`)
        obtain ⟨hc0, rfl⟩ : c ≠ 0 ∧ ps1 = [] := by simpa using hc
        split at h
        next rn1 ha =>
          split at h
          next is2 ps2 hv2 =>
            split at h <;> cases h
            obtain ⟨s, _, e1, rfl⟩ := appendElem_ok ha
            rcases elementsOf_ok his with ⟨_, rfl⟩ | ⟨⟨t, v, st, rfl⟩, rfl⟩ <;> cases e1
            exact Or.inr ⟨s, is, _, is2, rfl, hv2, rfl, Or.inr ⟨hc0, is1, _, hv, rfl⟩⟩
          all_goals cases h
        all_goals cases h
    all_goals cases h
  all_goals cases h

/-- a field part goes on in the first field of that name; absent (or in a null scalar) it reports nothing, or, when
    creating, goes on in a fresh node; what comes back is put under the name -/
theorem matchField_ok (hne : part ≠ "") (h : matchField ns rec c next part rn = .ok (d', ps)) :
    (c = 0 ∧ d' = rn ∧ ps = [] ∧ ∀ s fs, rn = .map s fs → fieldGet part fs = none) ∨
    ∃ s fs x x' qs, rn = .map s fs ∧ rec x = .ok (x', qs) ∧
      d' = .map s (fieldPut part x' fs) ∧ ps = qs.map (Step.key part :: ·) ∧
      (fieldGet part fs = some x ∨ c ≠ 0 ∧ fieldGet part fs = none ∧ x = emptyOfKind (partKind next c) 0) := by
  have absent {s fs} (hx : fieldMatcher part none (some (.map s fs)) = .ok none) : fieldGet part fs = none :=
    Out.ok.inj ((fieldMatcher_map hne s fs).symm.trans hx)
  revert h
  fun_cases matchField ns rec c next part rn
  case case1 x x' qs hr s fs hx =>
    -- the field is there
    intro h
    cases h
    obtain ⟨_, _, e, hg⟩ := fieldMatcher_some hne hx
    cases e
    exact Or.inr ⟨s, fs, x, x', qs, rfl, hr, by rw [fieldPut_of_some hg], rfl, Or.inl hg⟩
  case case2 hx hrn =>
    -- (found, but not in a map: does not happen)
    obtain ⟨s, fs, e, -⟩ := fieldMatcher_some hne hx
    exact (hrn s fs e).elim
  case case5 hc hx =>
    -- absent, not creating
    intro h
    cases h
    exact Or.inl ⟨hc, rfl, rfl, fun s fs e => absent (e ▸ hx)⟩
  case case6 hc _ _ x' qs hr s _ hx hs =>
    -- absent: a fresh field is appended, then replaced by what comes back
    intro h
    cases h
    obtain ⟨_, fs, rfl, hrn1⟩ := fieldSetter_fresh (emptyOfKind_isNull _ _) hs
    have hg := absent hx
    cases hrn1 hg
    exact Or.inr ⟨s, fs, _, x', qs, rfl, hr, by rw [← fieldPut_of_none hg, fieldReplace_put], rfl, Or.inr ⟨hc, hg, rfl⟩⟩
  case case7 hrn1 hx hs =>
    -- (appended, but not to a map: does not happen)
    obtain ⟨_, _, rfl, e⟩ := fieldSetter_fresh (emptyOfKind_isNull _ _) hs
    exact (hrn1 _ _ (e (absent hx))).elim
  all_goals intro h; cases h

/-! ### without creation and with a test that always answers, each kind of part reports the positions of the
    reference interpretation -/

variable {hitB : String → Node → Bool} {sub : Node → List Pos}

/-- the test that `[k=v]` (`k` not empty) applies to an element -/
def selField (hitB : String → Node → Bool) (k pat : String) (e : Node) : Bool :=
  match e with
  | .map _ fs => match fieldGet k fs with | some x => hitB pat x | none => false
  | _ => false

theorem primElem_total (pat : String) (j : Nat) (e : Node) :
    primElem (fun a b => .ok (hitB a b)) pat j e = .ok (e, if hitB pat e then [[]] else []) := by
  cases hb : hitB pat e <;> simp [primElem, hb]

theorem fieldElem_total (k pat : String) (j : Nat) (e : Node) :
    fieldElem (fun a b => .ok (hitB a b)) rec k pat j e = if selField hitB k pat e then rec e else .ok (e, []) := by
  cases e with
  | map s fs =>
    cases hg : fieldGet k fs with
    | none => simp [fieldElem, selField, hg]
    | some x => cases hb : hitB pat x <;> simp [fieldElem, selField, hg, hb]
  | _ => simp [fieldElem, selField]

theorem denoteSel_seq {k pat : String} (hsp : splitIndexNameValue part = some (k, pat)) (s : Nat) (is : List Node) :
    denoteSel hitB sub part (.seq s is) =
      if k = "" then denoteElems (hitB pat) (fun _ => [[]]) 0 is else denoteElems (selField hitB k pat) sub 0 is := by
  unfold denoteSel  -- `simp only [denoteSel, hsp]` would evaluate `splitIndexNameValue part` before rewriting it
  simp only [hsp]
  rfl

theorem matchIdx_den (hrec : ∀ e e' ps, rec e = .ok (e', ps) → ps = sub e)
    (h : matchIdx rec 0 next part rn = .ok (d', ps)) : ps = denoteIdx sub part rn := by
  obtain ⟨i, s, is, e, e', qs, hi, he, hr, -, rfl, hrn⟩ := matchIdx_ok h
  cases hrn.resolve_right (·.1 rfl)            -- not creating (`c = 0`): the sequence was not grown
  simp [denoteIdx, hi, he, hrec _ _ _ hr]

theorem matchStar_den (hrec : ∀ e e' ps, rec e = .ok (e', ps) → ps = sub e)
    (h : matchStar rec rn = .ok (d', ps)) : ps = denoteStar sub rn := by
  rcases matchStar_ok h with ⟨⟨t, v, st, rfl⟩, -, rfl⟩ | ⟨s, is, is', rfl, hv, -⟩
  · rfl
  · exact visit_denote (sel := fun _ => true) (fun _ _ _ _ hr => by simp [hrec _ _ _ hr]) hv

theorem matchField_den (hrec : ∀ e e' ps, rec e = .ok (e', ps) → ps = sub e) (hne : part ≠ "")
    (h : matchField ns rec 0 next part rn = .ok (d', ps)) : ps = denoteField sub part rn := by
  rcases matchField_ok hne h with ⟨-, -, rfl, hno⟩ | ⟨s, fs, x, x', qs, rfl, hr, -, rfl, hx⟩
  · cases rn with
    | map s fs => simp [denoteField, hno s fs rfl]
    | _ => rfl
  · simp [denoteField, hx.resolve_right (·.1 rfl), hrec _ _ _ hr]

theorem matchSel_den (hrec : ∀ e e' ps, rec e = .ok (e', ps) → ps = sub e)
    (h : matchSel (fun a b => .ok (hitB a b)) rec 0 part rn = .ok (d', ps)) : ps = denoteSel hitB sub part rn := by
  obtain ⟨k, pat, hsp, ⟨⟨t, v, st, rfl⟩, -, -, rfl⟩ | ⟨s, is, js, is', rfl, hv, -, hjs⟩⟩ := matchSel_ok h
  · unfold denoteSel; simp only [hsp]
  · cases hjs.resolve_right (·.1 rfl)
    rw [denoteSel_seq hsp]
    by_cases hk : k = "" <;> simp only [selElem, hk, if_true, if_false] at hv ⊢
    · exact visit_denote (fun j e e' qs hf => by rw [primElem_total] at hf; cases hf; rfl) hv
    · refine visit_denote (fun j e e' qs hf => ?_) hv
      rw [fieldElem_total] at hf
      split at hf <;> rename_i hs
      · rw [if_pos hs]; exact hrec _ _ _ hf
      · cases hf; rw [if_neg hs]

end

/-! ### two facts about resolving stated on their own: the empty part (used by `C14.match_resolves`), and a position found
    by a visit in the receiver put back by `withItems` (`visit_resolves` is what the walk uses) -/

section
variable (rec : Node → Out (Node × List Pos))

theorem matchEmpty_resolves (hrec : ∀ e e' ps, rec e = .ok (e', ps) → ∀ q ∈ ps, (getAt q e').isSome)
    (c : Nat) (rn d' : Node) (ps : List Pos) (h : matchEmpty rec c rn = .ok (d', ps)) :
    ∀ pos ∈ ps, (getAt pos d').isSome := by
  rcases matchEmpty_ok h with hr | ⟨-, -, rfl⟩
  · exact hrec _ _ _ hr
  · simp

end

theorem withItems_seq_resolves (rn : Node) (is is' : List Node) (his : elementsOf rn = .ok is) (pos : Pos)
    (hne : is' ≠ [] ∨ ∃ s, rn = .seq s is)
    (h : ∃ k q e', pos = Step.idx (0 + k) :: q ∧ is'[k]? = some e' ∧ (getAt q e').isSome) :
    (is.length = is'.length) → (getAt pos (withItems rn is')).isSome := by
  intro hlen
  obtain ⟨k, q, e', rfl, e2, e3⟩ := h
  rcases elementsOf_ok his with ⟨s, rfl⟩ | ⟨_, rfl⟩
  · simpa [withItems, getAt, e2] using e3
  · cases is' <;> simp at hlen e2

end Kust.Match
