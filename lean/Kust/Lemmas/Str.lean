/-
  `Kust.Str`: every helper is a `List Char` function between `toList` and `ofList`.
  * For reasoning, those the proofs reason about get the list fact that characterises them (read through
    `String.toList`); proofs about strings then stay in `List` and never unfold `String.ofList` (whose unfolding is
    UTF-8 encoding into a byte array).
  * For evaluating a fact about a string LITERAL, each gets its value on `String.ofList cs`: the kernel turns a literal
    into `String.ofList [..]` for nothing, while `"..".toList` (UTF-8 decoding) costs it seconds on a long literal; so
    such a fact is proved by unifying the literal with `String.ofList ?cs` (`apply`, `rw`) and evaluating on characters.
-/
import Kust.Str
namespace Kust.Str

/-! read through `toList` (for reasoning) -/

theorem isPrefixL_iff {p s : List Char} : isPrefixL p s = true ↔ p <+: s := by
  induction p generalizing s with
  | nil => simp [isPrefixL]
  | cons a p ih => cases s <;> simp [isPrefixL, ih]

theorem hasSuffix_iff {s p : String} : hasSuffix s p = true ↔ p.toList <:+ s.toList :=
  isPrefixL_iff.trans List.reverse_prefix

/-- ends in the character `c`.  (`p` is a variable with its characters as a hypothesis: unifying a literal such as `"\\"` with
    `String.singleton c` would make Lean compute with UTF-8 byte arrays.) -/
theorem hasSuffix_char {s p : String} {c : Char} (hp : p.toList = [c]) :
    hasSuffix s p = true ↔ s.toList.getLast? = some c := by
  rw [hasSuffix_iff, hp, List.getLast?_eq_some_iff]
  exact ⟨fun ⟨t, h⟩ => ⟨t, h.symm⟩, fun ⟨t, h⟩ => ⟨t, h.symm⟩⟩

@[simp] theorem toList_dropRight (s : String) (n : Nat) : (dropRight s n).toList = (s.toList.reverse.drop n).reverse := by
  simp [dropRight]

/-! `strings.Split` at one character: `splitChar`, whose loop is `splitChar.go` (the `go_*` lemmas) -/

@[simp] theorem go_nil (d : Char) (cur : List Char) : splitChar.go d [] cur = [String.ofList cur.reverse] := rfl
@[simp] theorem go_sep (d : Char) (cs cur : List Char) :
    splitChar.go d (d :: cs) cur = String.ofList cur.reverse :: splitChar.go d cs [] := by simp [splitChar.go]
theorem go_ne {c d : Char} (h : c ≠ d) (cs cur : List Char) :
    splitChar.go d (c :: cs) cur = splitChar.go d cs (c :: cur) := by simp [splitChar.go, h]

/-- the first piece is the open piece extended by some text `w`; `w` and the other pieces depend on the input only
    (all that `PathSplit.scan_eq_merge` needs to know about `strings.Split`) -/
theorem go_eq (d : Char) (cs : List Char) : ∃ w rest, ∀ cur,
    splitChar.go d cs cur = String.ofList (cur.reverse ++ w) :: rest := by
  induction cs with
  | nil => exact ⟨[], [], by simp⟩
  | cons c cs ih =>
    by_cases h : c = d
    · exact ⟨[], splitChar.go d cs [], by simp [h]⟩
    · obtain ⟨w, rest, hg⟩ := ih
      exact ⟨c :: w, rest, fun cur => by rw [go_ne h, hg]; simp⟩

theorem go_chars (d : Char) (cs cur : List Char) : ∀ p ∈ splitChar.go d cs cur, p.toList ⊆ cur.reverse ++ cs := by
  fun_induction splitChar.go d cs cur with
  | case1 cur => simp
  | case2 cs cur ih =>  -- a separator: the open piece is closed, the others are made of the rest of the text
    refine List.forall_mem_cons.mpr ⟨by simp, fun p hp => (ih p hp).trans ?_⟩
    exact List.subset_append_of_subset_right _ (List.subset_cons_self ..)
  | case3 c cs cur hc ih => rwa [List.reverse_cons, List.append_assoc] at ih

theorem splitChar_chars (d : Char) (s : String) : ∀ p ∈ splitChar d s, p.toList ⊆ s.toList := by
  have := go_chars d s.toList []
  rwa [List.reverse_nil, List.nil_append] at this

/-! on `String.ofList cs` (for evaluation on literals) -/

@[simp] theorem hasPrefix_ofList (a p : List Char) : hasPrefix (String.ofList a) (String.ofList p) = isPrefixL p a := by
  simp [hasPrefix]

@[simp] theorem hasSuffix_ofList (a p : List Char) :
    hasSuffix (String.ofList a) (String.ofList p) = isPrefixL p.reverse a.reverse := by
  simp [hasSuffix]

@[simp] theorem dropRight_ofList (a : List Char) (n : Nat) :
    dropRight (String.ofList a) n = String.ofList (a.reverse.drop n).reverse := by
  simp [dropRight]

@[simp] theorem dropLeft_ofList (a : List Char) (n : Nat) : dropLeft (String.ofList a) n = String.ofList (a.drop n) := by
  simp [dropLeft]

@[simp] theorem trim_ofList (a : List Char) :
    trim (String.ofList a) =
      String.ofList ((a.dropWhile Char.isWhitespace).reverse.dropWhile Char.isWhitespace).reverse := by
  simp [trim]

@[simp] theorem splitChar_ofList (sep : Char) (a : List Char) : splitChar sep (String.ofList a) = splitChar.go sep a [] := by
  simp [splitChar]

end Kust.Str
