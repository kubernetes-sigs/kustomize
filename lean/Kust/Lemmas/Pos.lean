/- Positions in a document (`Kust.Match.Pos`, read by `getAt`): following a position step by step, positions that are
   apart, and the two things the theorems say about a list of positions — that they address nodes (`Resolves`), and
   that a document was edited at them and nowhere else (`EditedAt`).  `EditedAt` is kept by each way the models go down
   into a document (a field, one element; all elements: `EditedAt.items`, beside `C14.fsDenoteItems` in Props/C14d) and by
   one edit after another, so the field-spec filter
   (`C14.filter_edits`), a rewrite at a position (`C10.modifyAt_ok`) and a list of writes (`C10.writeAll_edits`) are
   all instances. -/
import Kust.Match
import Kust.Lemmas.Fields
import Kust.Lemmas.Basic
namespace Kust

/-- neither position lies on the path to the other -/
def C10.Apart (p q : Match.Pos) : Prop := ¬ p <+: q ∧ ¬ q <+: p

namespace Match
open Kust Node Fns C10

theorem getAt_cons (a : Step) (r : Pos) (d : Node) : getAt (a :: r) d = (getAt [a] d).bind (getAt r) := by
  cases a <;> cases d <;> simp [getAt]

theorem getAt_key {k : String} {s : Nat} {fs : Fields} {x : Node} (p : Pos) (h : fieldGet k fs = some x) :
    getAt (.key k :: p) (.map s fs) = getAt p x := by
  rw [getAt, h]; rfl

theorem getAt_idx {i s : Nat} {is : List Node} {e : Node} (p : Pos) (h : is[i]? = some e) :
    getAt (.idx i :: p) (.seq s is) = getAt p e := by
  rw [getAt, h]; rfl

theorem apart_cons_cons (a b : Step) (p q : Pos) : Apart (a :: p) (b :: q) ↔ a ≠ b ∨ Apart p q := by
  by_cases h : a = b <;> simp [Apart, List.cons_prefix_cons, h, eq_comm]

theorem apart_of_cons {a : Step} {p q : Pos} (h : Apart (a :: p) (a :: q)) : Apart p q :=
  ((apart_cons_cons a a p q).mp h).resolve_left (· rfl)

theorem Apart.symm {p q : Pos} (h : Apart p q) : Apart q p := ⟨h.2, h.1⟩

/-! ### positions that address nodes -/

/-- every position of the list addresses a node of `d` -/
abbrev Resolves (d : Node) (ps : List Pos) : Prop := ∀ pos ∈ ps, (getAt pos d).isSome

theorem Resolves.nil (d : Node) : Resolves d [] := fun _ h => nomatch h

theorem Resolves.here (d : Node) : Resolves d [[]] := fun _ h => by cases List.mem_singleton.1 h; rfl

theorem Resolves.cons {a : Step} {d x : Node} {qs : List Pos} (hx : getAt [a] d = some x) (h : Resolves x qs) :
    Resolves d (qs.map (a :: ·)) := by
  intro pos hp
  obtain ⟨q, hq, rfl⟩ := List.mem_map.mp hp
  rw [getAt_cons, hx]
  exact h q hq

/-! ### a document edited at positions -/

/-- `n'` is `n` with `set` applied at the positions `ps`: each of them holds what the setter made of the node that was
    there; every position apart from all of them (neither on the way to one nor below one) holds the node it held
    before; and nothing that positions do not show (styles, field order, repeated keys) changed either — if the setter
    returned those nodes as they were, `n'` is `n` -/
def EditedAt (set : Node → Out Node) (ps : List Pos) (n n' : Node) : Prop :=
  (∀ p ∈ ps, ∃ t t', getAt p n = some t ∧ set t = .ok t' ∧ getAt p n' = some t') ∧
  (∀ q, (∀ p ∈ ps, Apart p q) → getAt q n' = getAt q n) ∧
  ((∀ p ∈ ps, ∀ t t', getAt p n = some t → set t = .ok t' → t' = t) → n' = n)

namespace EditedAt
variable {set : Node → Out Node}

/-- the frame clause need only be shown below the root: the root is on the way to every position, so it is off them
    only when there are none, and then the third clause says that nothing changed -/
theorem intro {ps : List Pos} {n n' : Node}
    (hA : ∀ p ∈ ps, ∃ t t', getAt p n = some t ∧ set t = .ok t' ∧ getAt p n' = some t')
    (hB : ∀ b q, (∀ p ∈ ps, Apart p (b :: q)) → getAt (b :: q) n' = getAt (b :: q) n)
    (hC : (∀ p ∈ ps, ∀ t t', getAt p n = some t → set t = .ok t' → t' = t) → n' = n) : EditedAt set ps n n' := by
  refine ⟨hA, fun q hq => ?_, hC⟩
  match q with
  | [] => rw [hC fun p hp => ((hq p hp).2 List.nil_prefix).elim]
  | b :: q => exact hB b q hq

theorem none (n : Node) : EditedAt set [] n n := ⟨nofun, fun _ _ => rfl, fun _ => rfl⟩

theorem here {n n' : Node} (h : set n = .ok n') : EditedAt set [[]] n n' :=
  ⟨fun p hp => by cases List.mem_singleton.1 hp; exact ⟨n, n', rfl, h, rfl⟩,
   fun _ hq => absurd List.nil_prefix (hq [] (List.mem_singleton.2 rfl)).1,
   fun hfix => hfix [] (List.mem_singleton.2 rfl) n n' rfl h⟩

/-- an edit of the node one step down is an edit of `d` below that step, whenever `d'` is `d` with the new node put
    back the way `fieldReplace` and `List.set` do it: below the step `d` shows the old node and `d'` the new one, below
    every other step they show the same, and putting back the node that was there gives `d` again -/
theorem step {a : Step} {d d' x x' : Node} {ps : List Pos} (hg : ∀ p, getAt (a :: p) d = getAt p x)
    (hg' : ∀ p, getAt (a :: p) d' = getAt p x') (hoth : ∀ b q, b ≠ a → getAt (b :: q) d' = getAt (b :: q) d)
    (hself : x' = x → d' = d) (h : EditedAt set ps x x') : EditedAt set (ps.map (a :: ·)) d d' := by
  apply EditedAt.intro <;> simp only [List.forall_mem_map]
  · intro p hp
    obtain ⟨t, t', a1, a2, a3⟩ := h.1 p hp
    exact ⟨t, t', (hg p).trans a1, a2, (hg' p).trans a3⟩
  · intro b q hq
    by_cases hb : b = a
    · subst hb
      rw [hg, hg']
      exact h.2.1 q fun p hp => apart_of_cons (hq p hp)
    · exact hoth b q hb
  · intro hfix
    exact hself (h.2.2 fun p hp t t' ht => hfix p hp t t' ((hg p).trans ht))

theorem key {k : String} {s : Nat} {fs : Fields} {x x' : Node} {ps : List Pos} (hg : fieldGet k fs = some x)
    (h : EditedAt set ps x x') : EditedAt set (ps.map (Step.key k :: ·)) (.map s fs) (.map s (fieldReplace k x' fs)) := by
  refine h.step (getAt_key · hg) (getAt_key · (fieldGet_replace_same k x' fs x hg)) (fun b q hb => ?_) fun e => ?_
  · cases b with
    | idx j => rfl
    | key k' => simp only [getAt, fieldGet_replace_other k k' x' fs fun e => hb (congrArg Step.key e)]
  · rw [e, fieldReplace_self k fs x hg]

theorem idx {i s : Nat} {is : List Node} {x x' : Node} {ps : List Pos} (hi : is[i]? = some x)
    (h : EditedAt set ps x x') : EditedAt set (ps.map (Step.idx i :: ·)) (.seq s is) (.seq s (is.set i x')) := by
  have hi' : (is.set i x')[i]? = some x' := List.getElem?_set_self (List.getElem?_eq_some_iff.mp hi).1
  refine h.step (getAt_idx · hi) (getAt_idx · hi') (fun b q hb => ?_) fun e => ?_
  · cases b with
    | key k => rfl
    | idx j => simp only [getAt, List.getElem?_set_ne fun e => hb (congrArg Step.idx e.symm)]
  · rw [e, set_of_getElem? hi]

theorem cons {p : Pos} {ps : List Pos} {n n1 n' : Node} (h1 : EditedAt set [p] n n1) (h2 : EditedAt set ps n1 n')
    (hap : ∀ q ∈ ps, Apart p q) : EditedAt set (p :: ps) n n' := by
  -- the first edit, said of `p` itself
  obtain ⟨a1, fr1, c1⟩ := h1
  simp only [List.mem_singleton, forall_eq] at a1 fr1 c1
  refine ⟨List.forall_mem_cons.mpr ⟨?_, fun q hq => ?_⟩, fun q hq => ?_, fun hfix => ?_⟩
  · -- written first, then left alone by the later edits
    obtain ⟨t, t', e1, e2, e3⟩ := a1
    exact ⟨t, t', e1, e2, by rw [h2.2.1 p fun q hq => (hap q hq).symm, e3]⟩
  · -- left alone by the first edit
    obtain ⟨t, t', e1, e2, e3⟩ := h2.1 q hq
    exact ⟨t, t', by rw [← e1, fr1 q (hap q hq)], e2, e3⟩
  · obtain ⟨hp, hq⟩ := List.forall_mem_cons.mp hq
    rw [h2.2.1 q hq, fr1 q hp]
  · obtain ⟨hp, hps⟩ := List.forall_mem_cons.mp hfix
    cases c1 hp
    exact h2.2.2 hps

end EditedAt
end Match
end Kust
