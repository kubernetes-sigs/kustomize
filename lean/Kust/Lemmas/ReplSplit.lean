/- `strings.Split` / `strings.Join` facts for the replacement model. -/
import Kust.Repl
namespace Kust.Repl
open Kust

/-! ### `strings.Split` at a one-character delimiter undoes `strings.Join` of delimiter-free pieces -/

theorem splitL_cons (c x : Char) (cs cur : List Char) :
    splitL [c] (x :: cs) 0 cur = if c = x then cur.reverse :: splitL [c] cs 0 [] else splitL [c] cs 0 (x :: cur) := by
  simp [splitL, Str.isPrefixL]

theorem splitL_skip (c : Char) (p : List Char) (h : c ∉ p) (cur rest : List Char) :
    splitL [c] (p ++ rest) 0 cur = splitL [c] rest 0 (p.reverse ++ cur) := by
  induction p generalizing cur with
  | nil => rfl
  | cons x p ih =>
    rw [List.mem_cons, not_or] at h
    simp [splitL_cons, h.1, ih h.2]

theorem splitL_joinL (c : Char) (ps : List (List Char)) (hne : ps ≠ []) (h : ∀ p ∈ ps, c ∉ p) :
    splitL [c] (joinL [c] ps) 0 [] = ps := by
  fun_induction joinL [c] ps with
  | case1 => exact absurd rfl hne
  | case2 p => simpa [splitL] using splitL_skip c p (h p (by simp)) [] []
  | case3 p q ps ih =>
    -- the first piece is closed at the delimiter that `joinL` put behind it
    rw [List.append_assoc, splitL_skip c p (h p (by simp)), List.singleton_append, splitL_cons, if_pos rfl,
      ih (by simp) (fun p' hp' => h p' (by simp [hp']))]
    simp

theorem splitL_pieces_free (c : Char) (s : List Char) : ∀ cur, c ∉ cur → ∀ p ∈ splitL [c] s 0 cur, c ∉ p := by
  induction s with
  | nil => simp [splitL]
  | cons x s ih =>
    intro cur hc p
    rw [splitL_cons]
    split
    · rw [List.mem_cons]
      rintro (rfl | hp)
      · simpa using hc
      · exact ih [] (by simp) p hp
    · exact ih (x :: cur) (by simp [*]) p

theorem splitL_ne_nil (d s : List Char) (k : Nat) (cur : List Char) : splitL d s k cur ≠ [] := by
  fun_induction splitL d s k cur <;> simp [*]

/-! string level -/

theorem split_singleton (c : Char) (s : String) :
    split (String.singleton c) s = (splitL [c] s.toList 0 []).map String.ofList := by
  simp [split]

theorem split_join_char (c : Char) (ps : List String) (hne : ps ≠ []) (h : ∀ p ∈ ps, c ∉ p.toList) :
    split (String.singleton c) (join (String.singleton c) ps) = ps := by
  rw [split_singleton, join, String.toList_singleton, String.toList_ofList,
    splitL_joinL c _ (mt List.map_eq_nil_iff.mp hne) (List.forall_mem_map.mpr h), List.map_map]
  simp [Function.comp_def]

theorem split_pieces_free (c : Char) (s : String) : ∀ p ∈ split (String.singleton c) s, c ∉ p.toList := by
  intro p hp
  rw [split_singleton] at hp
  obtain ⟨a, ha, rfl⟩ := List.mem_map.mp hp
  rw [String.toList_ofList]
  exact splitL_pieces_free c _ [] (by simp) a ha

theorem split_ne_nil (d s : String) : split d s ≠ [] := by
  simp [split, splitL_ne_nil]

end Kust.Repl
