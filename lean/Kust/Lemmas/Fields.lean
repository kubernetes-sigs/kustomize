/- Mapping-node fields as association lists (first match, duplicate keys allowed): the laws of `fieldGet` / `fieldReplace` /
   `fieldErase`; `fieldPut` (write-or-append) with its get/put laws; `isNull` on each constructor; how the setters handle the
   value (`quoteIfNonString_isNull`, `scalarSetter_scalar`; the `FieldSetter` normal form itself is `C14.fieldSetter_store`). -/
import Kust.Fns
namespace Kust.Fns
open Kust Node

/-! `isNull` on each constructor, so that no proof has to unfold it -/
@[simp] theorem isNull_scalar (t v : String) (s : Nat) : (Node.scalar t v s).isNull = (t == "!!null") := rfl
@[simp] theorem isNull_map (s : Nat) (fs : Fields) : (Node.map s fs).isNull = false := rfl
@[simp] theorem isNull_seq (s : Nat) (is : List Node) : (Node.seq s is).isNull = false := rfl

theorem emptyOfKind_isNull (k st : Nat) : (emptyOfKind k st).isNull = false := by
  unfold emptyOfKind; split <;> rfl

@[simp] theorem fieldGet_nil (n : String) : fieldGet n [] = none := rfl

theorem fieldGet_cons (n k : String) (v : Node) (fs : Fields) :
    fieldGet n ((k, v) :: fs) = if k = n then some v else fieldGet n fs := rfl

theorem fieldGet_replace_same (n : String) (v : Node) (fs : Fields) (x : Node)
    (h : fieldGet n fs = some x) : fieldGet n (fieldReplace n v fs) = some v := by
  fun_induction fieldGet n fs <;> simp_all [fieldGet, fieldReplace]

theorem fieldGet_replace_other (n m : String) (v : Node) (fs : Fields) (hm : m ≠ n) :
    fieldGet m (fieldReplace n v fs) = fieldGet m fs := by
  fun_induction fieldReplace n v fs <;> simp_all [fieldGet, Ne.symm hm]

theorem fieldReplace_self (n : String) (fs : Fields) (x : Node) (h : fieldGet n fs = some x) :
    fieldReplace n x fs = fs := by
  fun_induction fieldGet n fs <;> simp_all [fieldReplace]

theorem fieldReplace_replace (n : String) (v w : Node) (fs : Fields) :
    fieldReplace n w (fieldReplace n v fs) = fieldReplace n w fs := by
  fun_induction fieldReplace n v fs <;> simp_all [fieldReplace]

theorem fieldReplace_absent (n : String) (v : Node) (fs : Fields) (h : fieldGet n fs = none) :
    fieldReplace n v fs = fs := by
  fun_induction fieldGet n fs <;> simp_all [fieldReplace]

theorem fieldGet_append_absent (n : String) (v : Node) (fs : Fields) (h : fieldGet n fs = none) :
    fieldGet n (fs ++ [(n, v)]) = some v := by
  fun_induction fieldGet n fs <;> simp_all [fieldGet]

theorem fieldGet_append_other (n m : String) (v : Node) (fs : Fields) (hm : m ≠ n) :
    fieldGet m (fs ++ [(n, v)]) = fieldGet m fs := by
  fun_induction fieldGet m fs <;> simp_all [fieldGet, Ne.symm hm]

theorem fieldErase_absent (n : String) (fs : Fields) (h : fieldGet n fs = none) :
    fieldErase n fs = fs := by
  fun_induction fieldGet n fs <;> simp_all [fieldErase]

theorem fieldGet_erase_other (n m : String) (fs : Fields) (hm : m ≠ n) :
    fieldGet m (fieldErase n fs) = fieldGet m fs := by
  fun_induction fieldErase n fs <;> simp_all [fieldGet, Ne.symm hm]

/-! ### write-or-append

`FieldSetter`, `PathGetter` with creation and the field-spec filter all end by putting a node back under a name:
over the first field of that name if there is one, else as a new last field. -/

def fieldPut (n : String) (v : Node) (fs : Fields) : Fields :=
  match fieldGet n fs with
  | some _ => fieldReplace n v fs
  | none => fs ++ [(n, v)]

theorem fieldPut_of_some {n : String} {fs : Fields} {x : Node} (h : fieldGet n fs = some x) (v : Node) :
    fieldPut n v fs = fieldReplace n v fs := by simp [fieldPut, h]

theorem fieldPut_of_none {n : String} {fs : Fields} (h : fieldGet n fs = none) (v : Node) :
    fieldPut n v fs = fs ++ [(n, v)] := by simp [fieldPut, h]

@[simp] theorem fieldGet_put_same (n : String) (v : Node) (fs : Fields) : fieldGet n (fieldPut n v fs) = some v := by
  unfold fieldPut
  split
  · exact fieldGet_replace_same n v fs _ ‹_›
  · exact fieldGet_append_absent n v fs ‹_›

theorem fieldGet_put_other (n m : String) (v : Node) (fs : Fields) (hm : m ≠ n) :
    fieldGet m (fieldPut n v fs) = fieldGet m fs := by
  unfold fieldPut
  split
  · exact fieldGet_replace_other n m v fs hm
  · exact fieldGet_append_other n m v fs hm

@[simp] theorem fieldReplace_put (n : String) (v w : Node) (fs : Fields) :
    fieldReplace n w (fieldPut n v fs) = fieldPut n w fs := by
  unfold fieldPut
  split
  · exact fieldReplace_replace n v w fs
  · fun_induction fieldGet n fs <;> simp_all [fieldReplace]

@[simp] theorem fieldPut_put (n : String) (v w : Node) (fs : Fields) :
    fieldPut n w (fieldPut n v fs) = fieldPut n w fs := by
  rw [fieldPut_of_some (fieldGet_put_same n v fs), fieldReplace_put]

theorem fieldPut_self (n : String) (fs : Fields) (x : Node) (h : fieldGet n fs = some x) : fieldPut n x fs = fs := by
  rw [fieldPut_of_some h, fieldReplace_self n fs x h]

/-! ### the setters' value handling -/

theorem quoteIfNonString_isNull (ns : String → Bool) (ovr : Bool) (v : Node) :
    (quoteIfNonString ns ovr v).isNull = v.isNull := by
  cases v with
  | scalar t x s => simp only [quoteIfNonString]; split <;> rfl
  | _ => rfl

/-- without `OverrideStyle` a value set over a scalar (null or not) is stored in the OLD style — the double quotes
    the YAML-1.1 test may just have asked for are overwritten -/
theorem scalarSetter_scalar (ns : String → Bool) (w : Node) (hw : w.isNull = false) (t v : String) (st : Nat) :
    scalarSetter ns (some w) false (.scalar t v st) =
      .ok ((quoteIfNonString ns false w).withStyle st, some ((quoteIfNonString ns false w).withStyle st)) := by
  simp [scalarSetter, quoteIfNonString_isNull, hw, inheritStyleScalar, Node.style]

end Kust.Fns
