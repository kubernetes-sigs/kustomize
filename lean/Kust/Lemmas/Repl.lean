/- Lemmas about the replacement model (`Kust.Repl`): one field write, the frame every loop of the filter keeps, what a
   literal write leaves in the fields it names, how a source is resolved. -/
import Kust.Repl
namespace Kust.Repl
open Kust

/-! ### one field -/

theorem kvGet_kvSet (k k' v : String) (m : KV) : kvGet k' (kvSet k v m) = if k' = k then some v else kvGet k' m := by
  fun_induction kvSet k v m <;> grind [kvGet]

theorem setF_ok {c : Bool} {r r' : Res} {f : FRef} {v : String} : setF c r f v = some r' →
    r'.kind = r.kind ∧ ∀ g, getF r' g = if g = f then some v else getF r g := by
  fun_cases setF c r f v <;> intro h <;> cases h
  -- the arms that succeed: `r` with the name, or with one entry of the labels or of the data, set
  all_goals exact ⟨rfl, fun g => by cases g <;> simp [getF, kvGet, kvGet_kvSet, *, eq_comm]⟩

theorem copyField_ok {st st' : State} {val : Val} {t : Target} {j : Nat} {f : FRef} :
    copyField st val t j f = .ok st' →
    ∃ r r' v, st[j]? = some r ∧ readVal st val = .ok v ∧ st' = st.set j r' ∧ r'.kind = r.kind ∧
      ∀ g, getF r' g = if g = f then some (newValue t.opts ((getF r f).getD "") v) else getF r g := by
  fun_cases copyField st val t j f <;> intro h <;> cases h
  -- the arms that succeed (the field is there, or it is created): the resource is found, the value is read, and `setF`
  -- writes the new value over the old one, which the hypothesis of the arm names
  all_goals
    obtain ⟨hk, hg⟩ := setF_ok ‹setF _ _ _ _ = some _›
    exact ⟨_, _, _, ‹st[j]? = some _›, ‹readVal st val = .ok _›, rfl, hk, by simpa [*] using hg⟩

/-! ### the frame

`Frame S N st st'`: `st'` is `st` with some resources rewritten — none added, dropped, reordered or changed in kind; a
resource differs only if `S` allows it (by index and content), and then only in fields `N` allows.  Every loop of the
filter keeps a frame; frames compose. -/

def Frame (S : Nat → Res → Prop) (N : FRef → Prop) (st st' : State) : Prop :=
  st'.length = st.length ∧ ∀ (i : Nat) r, st[i]? = some r → ∃ r', st'[i]? = some r' ∧ r'.kind = r.kind ∧
    (∀ g, ¬ N g → getF r' g = getF r g) ∧ (¬ S i r → r' = r)

theorem Frame.refl {S N} (st : State) : Frame S N st st :=
  ⟨rfl, fun _ r hr => ⟨r, hr, rfl, fun _ _ => rfl, fun _ => rfl⟩⟩

theorem Frame.comp {S1 S2 N1 N2} {st st1 st2 : State} (h1 : Frame S1 N1 st st1) (h2 : Frame S2 N2 st1 st2) :
    Frame (fun i r => S1 i r ∨ S2 i r) (fun g => N1 g ∨ N2 g) st st2 := by
  refine ⟨h2.1.trans h1.1, fun i r hr => ?_⟩
  obtain ⟨r1, hr1, hk1, hg1, hs1⟩ := h1.2 i r hr
  obtain ⟨r2, hr2, hk2, hg2, hs2⟩ := h2.2 i r1 hr1
  -- a resource the first step does not allow reaches the second step unchanged
  exact ⟨r2, hr2, hk2.trans hk1, fun g hg => (hg2 g (fun h => hg (Or.inr h))).trans (hg1 g (fun h => hg (Or.inl h))),
    fun hs => by cases hs1 (fun h => hs (Or.inl h)); exact hs2 (fun h => hs (Or.inr h))⟩

theorem Frame.mono {S S' N N'} {st st' : State} (h : Frame S N st st')
    (hS : ∀ (i : Nat) r, st[i]? = some r → S i r → S' i r) (hN : ∀ g, N g → N' g) : Frame S' N' st st' :=
  ⟨h.1, fun i r hr => by
    obtain ⟨r', hr', hk, hg, hs⟩ := h.2 i r hr
    exact ⟨r', hr', hk, fun g hg' => hg g (fun hn => hg' (hN g hn)), fun hs' => hs (fun h => hs' (hS i r hr h))⟩⟩

theorem copyField_frame {st st' : State} {val : Val} {t : Target} {j : Nat} {f : FRef}
    (h : copyField st val t j f = .ok st') : Frame (fun i _ => i = j) (· = f) st st' := by
  obtain ⟨r, r', v, hr, _, rfl, hk, hg⟩ := copyField_ok h
  refine ⟨List.length_set, fun i r0 hr0 => ?_⟩
  by_cases hij : i = j
  · subst hij
    cases hr.symm.trans hr0
    exact ⟨r', List.getElem?_set_self (List.getElem?_eq_some_iff.mp hr).1, hk, fun g hg' => by rw [hg, if_neg hg'],
      fun hn => absurd rfl hn⟩
  · exact ⟨r0, (List.getElem?_set_ne (Ne.symm hij)).trans hr0, rfl, fun _ _ => rfl, fun _ => rfl⟩

theorem copyFields_frame {val : Val} {t : Target} {j : Nat} {fs : List FRef} {st st' : State}
    (h : copyFields val t j fs st = .ok st') : Frame (fun i _ => i = j) (· ∈ fs) st st' := by
  fun_induction copyFields val t j fs st with
  | case1 => cases h; exact Frame.refl _
  | case2 f fs st st1 h1 ih => exact ((copyField_frame h1).comp (ih h)).mono (by simp) (by simp)
  | case3 | case4 => cases h

theorem applyTargetFrom_frame {val : Val} {t : Target} {k j : Nat} {st st' : State}
    (h : applyTargetFrom val t k j st = .ok st') :
    Frame (fun i r => j ≤ i ∧ i < j + k ∧ selected t r = true) (· ∈ fieldsOf t) st st' := by
  fun_induction applyTargetFrom val t k j st with
  | case1 | case2 => cases h; exact Frame.refl _
  | case3 k j st rj hrj hsel st1 h1 ih =>
    -- resource `j` is selected and written
    refine ((copyFields_frame h1).comp (ih h)).mono (fun i r hr hi => ?_) (by simp)
    rcases hi with rfl | hi
    · cases hrj.symm.trans hr
      exact ⟨Nat.le_refl _, by omega, hsel⟩
    · exact ⟨by omega, by omega, hi.2.2⟩
  | case4 | case5 => cases h
  | case6 k j st rj hrj hsel ih => exact (ih h).mono (fun i r _ hi => ⟨by omega, by omega, hi.2.2⟩) (fun _ h => h)

theorem applyTarget_frame {val : Val} {t : Target} {st st' : State} (h : applyTarget val t st = .ok st') :
    Frame (fun _ r => selected t r = true) (· ∈ fieldsOf t) st st' :=
  (applyTargetFrom_frame h).mono (fun _ _ _ h => h.2.2) (fun _ h => h)

theorem applyTargets_frame {val : Val} {ts : List Target} {st st' : State} (h : applyTargets val ts st = .ok st') :
    Frame (fun _ r => ∃ t ∈ ts, selected t r = true) (fun g => ∃ t ∈ ts, g ∈ fieldsOf t) st st' := by
  fun_induction applyTargets val ts st with
  | case1 => cases h; exact Frame.refl _
  | case2 t ts st st1 h1 ih => exact ((applyTarget_frame h1).comp (ih h)).mono (by simp) (by simp)
  | case3 | case4 => cases h

theorem applyRepl_ok {rp : Repl} {st st' : State} : applyRepl rp st = .ok st' →
    ∃ val, resolve st rp.src = .ok val ∧ applyTargets val rp.targets st = .ok st' := by
  fun_cases applyRepl rp st <;> intro h
  case case3 => exact ⟨_, ‹_›, h⟩
  all_goals cases h

theorem applyAll_frame {rs : List Repl} {st st' : State} (h : applyAll rs st = .ok st') :
    Frame (fun _ r => ∃ rp ∈ rs, ∃ t ∈ rp.targets, selected t r = true)
      (fun g => ∃ rp ∈ rs, ∃ t ∈ rp.targets, g ∈ fieldsOf t) st st' := by
  fun_induction applyAll rs st with
  | case1 => cases h; exact Frame.refl _
  | case2 rp rs st st1 h1 ih =>
    obtain ⟨val, -, ht⟩ := applyRepl_ok h1
    exact ((applyTargets_frame ht).comp (ih h)).mono (by simp) (by simp)
  | case3 | case4 => cases h

/-! ### what is selected receives the value -/

def NoDelim (t : Target) : Prop := ∀ o, t.opts = some o → o.delim = ""

theorem newValue_noDelim (t : Target) (h : NoDelim t) (old v : String) : newValue t.opts old v = v := by
  unfold newValue
  cases ho : t.opts with
  | none => rfl
  | some o => simp [h o ho]

theorem copyFields_const {v : String} {t : Target} (hnd : NoDelim t) {j : Nat} {fs : List FRef} {st st' : State}
    (h : copyFields (.const v) t j fs st = .ok st') {r : Res} (hr : st[j]? = some r) :
    ∃ r', st'[j]? = some r' ∧ ∀ g, getF r' g = if g ∈ fs then some v else getF r g := by
  fun_induction copyFields (.const v) t j fs st generalizing r with
  | case1 => cases h; exact ⟨r, hr, by simp⟩
  | case2 f fs st st1 h1 ih =>
    obtain ⟨r0, r1, _, hr0, hv, rfl, -, hg⟩ := copyField_ok h1
    cases hr.symm.trans hr0
    cases hv
    obtain ⟨r', hr', hg'⟩ := ih h (r := r1) (List.getElem?_set_self (List.getElem?_eq_some_iff.mp hr).1)
    exact ⟨r', hr', fun g => by rw [hg', hg, newValue_noDelim t hnd]; by_cases g = f <;> simp [*]⟩
  | case3 | case4 => cases h

theorem applyTargetFrom_writes {v : String} {t : Target} (hnd : NoDelim t) {k j : Nat} {st st' : State}
    (h : applyTargetFrom (.const v) t k j st = .ok st') {i : Nat} {r : Res} (hr : st[i]? = some r)
    (hji : j ≤ i) (hik : i < j + k) (hsel : selected t r = true) :
    ∃ r', st'[i]? = some r' ∧ ∀ f ∈ fieldsOf t, getF r' f = some v := by
  fun_induction applyTargetFrom (.const v) t k j st with
  | case1 => omega
  | case2 k j st hj =>
    have := List.getElem?_eq_none_iff.mp hj
    have := (List.getElem?_eq_some_iff.mp hr).1
    omega
  | case3 k j st rj hrj _ st1 h1 ih =>
    by_cases hij : i = j
    · subst hij
      obtain ⟨r1, hr1, hall⟩ := copyFields_const hnd h1 hr
      -- the rest of the loop starts after `i` and leaves it alone
      obtain ⟨r', hr', -, -, hsame⟩ := (applyTargetFrom_frame h).2 i r1 hr1
      cases hsame (by omega)
      exact ⟨_, hr', fun f hf => by simp [hall, hf]⟩
    · obtain ⟨r', hr', -, -, hsame⟩ := (copyFields_frame h1).2 i r hr
      cases hsame hij
      exact ih h hr' (by omega) (by omega)
  | case4 | case5 => cases h
  | case6 k j st rj hrj hns ih =>
    have hij : i ≠ j := fun e => by subst e; cases hrj.symm.trans hr; exact hns hsel
    exact ih h hr (by omega) (by omega)

/-! ### the source -/

theorem srcMatches_eq (s : Sel) (st : State) (b : Nat) :
    srcMatches s st b = ((st.zipIdx b).filter (fun p => idSel s p.1)).map (·.2) := by
  induction st generalizing b with
  | nil => rfl
  | cons r rs ih => simp only [srcMatches, ih, List.zipIdx_cons, List.filter_cons]; split <;> rfl

theorem mem_srcMatches {s : Sel} {st : State} {i : Nat} :
    i ∈ srcMatches s st 0 ↔ ∃ r, st[i]? = some r ∧ idSel s r = true := by
  simp [srcMatches_eq, List.mem_zipIdx_iff_getElem?]

theorem refine_ok {o : Option Opts} {i : Nat} {f : FRef} {v : String} {val : Val} : refine o i f v = .ok val →
    (val = .live i f ∧ ∀ o', o = some o' → o'.delim = "") ∨
    ∃ o' p, o = some o' ∧ o'.delim ≠ "" ∧ 0 ≤ o'.index ∧ (split o'.delim v)[o'.index.toNat]? = some p ∧ val = .const p := by
  fun_cases refine o i f v <;> intro h <;> cases h
  · exact Or.inl ⟨rfl, nofun⟩
  · exact Or.inl ⟨rfl, fun _ e => by cases e; assumption⟩
  · rename_i o hd _ hb p hp
    exact Or.inr ⟨o, p, rfl, hd, by simp at hb; omega, hp, rfl⟩

end Kust.Repl
