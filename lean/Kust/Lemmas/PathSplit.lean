/-
  `PathSplit.split` (the model shaped like the Go code: strings.Split, then re-join pieces whose predecessor ends in a
  backslash) and `PathSplit.splitScan` (one left-to-right scan) are the same function.
-/
import Kust.PathSplit
import Kust.Lemmas.Str
namespace Kust.PathSplit
open Kust

theorem merge_acc (d : Char) (r : List String) (last : String) (acc : List String) :
    merge d (last :: acc) r = acc.reverse ++ merge d [last] r := by
  induction r generalizing last acc with
  | nil => simp [merge]
  | cons p r ih =>
    rw [merge, merge]
    split
    · rw [ih]  -- `p` continues `last`
    · rw [ih, ih p [last], List.reverse_cons, List.append_assoc]; rfl  -- `last` is closed

/-- `merge` without its accumulator: the piece in hand is closed, or, if it ends in a backslash, continued by the next one -/
theorem merge_cons_cons (d : Char) (p q : String) (r : List String) :
    merge d [] (p :: q :: r) =
      if Str.hasSuffix p "\\" then merge d [] ((Str.dropRight p 1 ++ String.singleton d ++ q) :: r)
      else p :: merge d [] (q :: r) := by
  rw [merge, merge]
  exact ite_congr rfl (fun _ => rfl) (fun _ => merge_acc d r q [p])

/-! `scan` at a delimiter and elsewhere -/
theorem scan_ne {c d : Char} (h : c ≠ d) (cs cur : List Char) : scan d (c :: cs) cur = scan d cs (c :: cur) := by
  rw [scan.eq_def]; exact if_neg h
theorem scan_sep_esc (d : Char) (cs cur : List Char) : scan d (d :: cs) ('\\' :: cur) = scan d cs (d :: cur) := by
  rw [scan, if_pos rfl]
theorem scan_sep {d : Char} {cur : List Char} (h : cur.head? ≠ some '\\') (cs : List Char) :
    scan d (d :: cs) cur = cur.reverse :: scan d cs [] := by
  rw [scan, if_pos rfl]  -- the equation of `scan` for an open piece that does not start with a backslash
  exact fun cur' hc => h (hc ▸ rfl)

theorem endsEsc_iff {s : String} : Str.hasSuffix s "\\" = true ↔ s.toList.getLast? = some '\\' :=
  Str.hasSuffix_char (by simp)

/-- the open piece of the scan is the first raw piece of `strings.Split` still growing: at a delimiter it is closed, or, if it
    ends in a backslash, continued — which is what re-joining does one piece later -/
theorem scan_eq_merge (d : Char) (cs cur : List Char) :
    (scan d cs cur).map String.ofList = merge d [] (Str.splitChar.go d cs cur) := by
  fun_induction scan d cs cur with
  | case1 cur => rfl
  | case2 cs cur' ih =>  -- a delimiter after a backslash
    obtain ⟨w, r, hg⟩ := Str.go_eq d cs
    -- the piece that re-joining makes of the closed piece `…\` and the next one, on characters
    have hj : Str.dropRight (String.ofList ('\\' :: cur').reverse) 1 ++ String.singleton d ++ String.ofList ([].reverse ++ w)
        = String.ofList ((d :: cur').reverse ++ w) := String.toList_inj.mp (by simp)
    rw [ih, Str.go_sep, hg, hg, merge_cons_cons, if_pos (endsEsc_iff.mpr (by simp)), hj]
  | case3 cs cur hcur ih =>  -- any other delimiter
    obtain ⟨w, r, hg⟩ := Str.go_eq d cs
    have hb : ¬ Str.hasSuffix (String.ofList cur.reverse) "\\" = true := by
      rw [endsEsc_iff, String.toList_ofList, List.getLast?_reverse, List.head?_eq_some_iff]
      exact fun ⟨t, ht⟩ => hcur t ht
    rw [List.map_cons, ih, Str.go_sep, hg, merge_cons_cons, if_neg hb]
  | case4 c cs cur hc ih => rw [Str.go_ne hc, ih]

theorem dropLead_of_ne {p : String} (h : p ≠ "") (l : List String) : dropLead (p :: l) = p :: l := by
  rw [dropLead]  -- the equation for a list that does not begin `"" :: _ :: _`
  exact fun a b heq => h (List.cons.inj heq).1

theorem dropLead_subset (l : List String) : dropLead l ⊆ l := by
  fun_cases dropLead l with
  | case1 a b => exact List.subset_cons_self ..
  | case2 => exact List.Subset.refl _

theorem split_eq_splitScan (d : Char) (path : String) : split d path = splitScan d path := by
  unfold split splitScan Str.splitChar
  cases path.toList with
  | nil => rfl
  | cons c r =>
    obtain ⟨w, rest, hg⟩ := Str.go_eq d r
    by_cases hc : c = d
    · -- a leading delimiter: `strings.Split` yields an empty first piece, which is dropped
      subst hc
      simp only [Str.go_sep, skipLead, if_true, scan_eq_merge, hg]
      rfl  -- `dropLead` fires: `String.ofList [].reverse` is `""`
    · have hne : String.ofList ([c].reverse ++ w) ≠ "" := mt String.ofList_eq_empty_iff.mp (List.cons_ne_nil c w)
      simp only [Str.go_ne hc, skipLead, hc, if_false, scan_ne hc, scan_eq_merge, hg, dropLead_of_ne hne]

end Kust.PathSplit
