/- The field-spec filter (`Kust.FieldSpec.filter`) one step at a time: on a null, on a sequence, and on a mapping
   through a plain segment (`C02.Plain`, defined here because `filter_map` needs it; `stepMode` is what a mapping step
   hands down); `filterItems` is the element-wise map in `Out`. -/
import Kust.FieldSpec
import Kust.Lemmas.Path
import Kust.Lemmas.Ident
namespace Kust.C02
open Kust Node Fns FieldSpec

/-- a path segment that is an ordinary field name: no `[]` hint, not a number / `-` / `*` / `[k=v]`, no blanks
    (the last clause follows from the second: `cleanPath [""] = []`) -/
def Plain (seg : String) : Prop :=
  seqField seg = (seg, false) ∧ cleanPath [seg] = [seg] ∧ classify seg = .ok (.field seg) ∧ seg ≠ ""

/-- identifier-like names are plain; the other notions of a plain name (`NsFilter.Plain`, `C14.PlainSeg`) get this
    through their conversions from `Plain` -/
theorem plain_of_ident {cs : List Char} (h : Str.identL cs = true) : Plain (String.ofList cs) :=
  ⟨Str.seqField_ident h, Str.cleanPath_ident h, Str.classify_ident h, Str.ident_ne_empty h⟩

end Kust.C02

namespace Kust.FieldSpec
open Kust Node Fns

theorem trimSpace_of_clean {seg : String} (h : cleanPath [seg] = [seg]) : trimSpace seg = seg := by
  unfold cleanPath at h
  simp only [List.map_cons, List.map_nil, List.filter] at h
  split at h
  · simpa using h
  · simp at h

theorem retype_of_not_null (kind : Nat) (tag : String) {n : Node} (h : n.isNull = false) : retype kind tag n = n := by
  simp [retype, h]

/-! ### `filterItems` -/

theorem filterItems_cons (rec : Node → Out Node) (e : Node) (es : List Node) :
    filterItems rec (e :: es) = (rec e).bind fun e' => (filterItems rec es).bind fun r => .ok (e' :: r) := by
  rw [filterItems]
  cases rec e with
  | ok a => cases filterItems rec es <;> rfl
  | _ => rfl

theorem filterItems_spec {rec : Node → Out Node} {is is' : List Node} (h : filterItems rec is = .ok is') :
    is'.length = is.length ∧ ∀ (i : Nat) e, is[i]? = some e → ∃ e', is'[i]? = some e' ∧ rec e = .ok e' := by
  induction is generalizing is' with
  | nil => cases h; simp
  | cons e es ih =>
    simp only [filterItems_cons, Out.bind_eq_ok, Out.ok.injEq] at h
    obtain ⟨e', he, r, hr, rfl⟩ := h
    obtain ⟨hl, hi⟩ := ih hr
    refine ⟨congrArg (· + 1) hl, fun i x hx => ?_⟩
    cases i with
    | zero => cases hx; exact ⟨e', rfl, he⟩
    | succ i => exact hi i x hx

/-! ### `filter` -/

variable {ns : String → Bool} {set : Node → Out Node} {create : Bool} {cr : Create} {f : Nat}

theorem filter_nil (x : Node) : filter ns set create cr (f + 1) [] x = set x := by
  rw [filter.eq_def]

theorem filter_null {seg : String} {rest : List String} {obj : Node} (h : obj.isNull = true) :
    filter ns set create cr (f + 1) (seg :: rest) obj = .ok obj := by
  rw [filter.eq_def]; simp [h]

theorem filter_seq (seg : String) (rest : List String) (s : Nat) (is : List Node) :
    filter ns set create cr (f + 1) (seg :: rest) (.seq s is) =
      (filterItems (filter ns set create cr f (seg :: rest)) is).bind fun is' => .ok (.seq s is') := by
  rw [filter.eq_def]
  simp only [isNull_seq, Bool.false_eq_true, if_false]
  cases filterItems (filter ns set create cr f (seg :: rest)) is <;> rfl

/-- the creation request a mapping step hands down for its field — the kind `Lookup` creates when the field is absent
    (0: nothing) and the tag a null found there is retyped with: none without creation, the configured request at the
    end of the path, a mapping on the way -/
def stepMode (create : Bool) (cr : Create) (rest : List String) : Create :=
  if !create || cr.kind = 0 then ⟨0, ""⟩ else if rest = [] then cr else ⟨2, "!!map"⟩

@[simp] theorem stepMode_nocreate (cr : Create) (rest : List String) : stepMode false cr rest = ⟨0, ""⟩ := by simp [stepMode]

theorem stepMode_last (hk : cr.kind ≠ 0) : stepMode true cr [] = cr := by simp [stepMode, hk]

theorem stepMode_mid {k2 : String} {r : List String} (hk : cr.kind ≠ 0) : stepMode true cr (k2 :: r) = ⟨2, "!!map"⟩ := by
  simp [stepMode, hk]

/-- **a plain segment on a mapping**: descend into the field (created empty if absent and creation is on, a null retyped),
    put the result back under the name.  (In `fieldChild … 0 seg "" fs` the `0` is the style and `""` the next part: the
    model looks the segment up as a path of its own, `cleanPath [seg]`, so nothing follows it there.) -/
theorem filter_map {seg : String} {rest : List String} {s : Nat} {fs : Fields} (hp : C02.Plain seg) :
    filter ns set create cr (f + 1) (seg :: rest) (.map s fs) =
      match fieldChild (stepMode create cr rest).kind 0 seg "" fs with
      | none => .ok (.map s fs)
      | some x =>
        (filter ns set create cr f rest (retype (stepMode create cr rest).kind (stepMode create cr rest).tag x)).bind
          fun x' => .ok (.map s (fieldPut seg x' fs)) := by
  obtain ⟨h1, h2, h3, h4⟩ := hp
  -- the model's triple for a segment without `[]` hint: what `Lookup` creates is the kind a null is retyped to
  have hmode : (if (!create || decide (cr.kind = 0)) = true then ((0 : Nat), (0 : Nat), "")
      else if rest = [] then (cr.kind, cr.kind, cr.tag) else (2, 2, "!!map"))
      = ((stepMode create cr rest).kind, (stepMode create cr rest).kind, (stepMode create cr rest).tag) := by
    unfold stepMode
    split
    · rfl
    · split <;> rfl
  rw [filter.eq_def]
  simp only [isNull_map, Bool.false_eq_true, if_false, h1, h4, Bool.or_false, hmode, h2, trimSpace_of_clean h2, h3,
    pathGet_field_last h3]
  cases fieldChild (stepMode create cr rest).kind 0 seg "" fs with
  | none => rfl
  | some x =>
    simp only []
    cases filter ns set create cr f rest _ with
    | ok x' => simp only [Out.ok_bind, fieldReplace_put]  -- the result replaces the child `Lookup` has put there
    | _ => rfl

theorem filter_map_nocreate {seg : String} {rest : List String} {s : Nat} {fs : Fields} (hp : C02.Plain seg) :
    filter ns set false cr (f + 1) (seg :: rest) (.map s fs) =
      match fieldGet seg fs with
      | none => .ok (.map s fs)
      | some x => (filter ns set false cr f rest x).bind fun x' => .ok (.map s (fieldReplace seg x' fs)) := by
  rw [filter_map hp]
  simp only [stepMode_nocreate, fieldChild_nocreate]
  cases hg : fieldGet seg fs with
  | none => rfl
  | some x => simp [retype, fieldPut_of_some hg]

theorem filter_map_create {seg : String} {rest : List String} {s : Nat} {fs : Fields} (hp : C02.Plain seg)
    (hk : cr.kind ≠ 0) :
    filter ns set true cr (f + 1) (seg :: rest) (.map s fs) =
      (filter ns set true cr f rest
        (retype (stepMode true cr rest).kind (stepMode true cr rest).tag
          ((fieldGet seg fs).getD (emptyOfKind (stepMode true cr rest).kind 0)))).bind
        fun x' => .ok (.map s (fieldPut seg x' fs)) := by
  have h0 : (stepMode true cr rest).kind ≠ 0 := by
    cases rest with
    | nil => rwa [stepMode_last hk]
    | cons k2 r => rw [stepMode_mid hk]; decide
  rw [filter_map hp, fieldChild_create h0, partKind_empty]

end Kust.FieldSpec
