/-
  Lemmas about `Kust.NsFilter` (the namespace transformer's filter): single-field lookups (`Plain`, `lookup_plain*`: facts
  about `Fns.lookup` that this filter is the one to need), the setter on a scalar, writing the `namespace` field of a mapping,
  the metadata pass as a run of the field-spec filter.
-/
import Kust.NsFilter
import Kust.Lemmas.FieldSpec
import Kust.Lemmas.FieldPath
namespace Kust.NsFilter
open Kust Node Fns

structure Plain (name : String) : Prop where
  clean : cleanPath [name] = [name]
  field : classify name = .ok (.field name)

theorem Plain.of_segment {seg : String} (h : C02.Plain seg) : Plain seg := ⟨h.2.1, h.2.2.1⟩

theorem plain_of_ident {cs : List Char} (h : Str.identL cs = true) : Plain (String.ofList cs) :=
  .of_segment (C02.plain_of_ident h)

-- `apply` unifies the literal with `String.ofList ?cs`; what is evaluated is `Str.identL` on characters
theorem segment_metadata : C02.Plain "metadata" := by apply C02.plain_of_ident; rfl
theorem segment_namespace : C02.Plain "namespace" := by apply C02.plain_of_ident; rfl
theorem plain_namespace : Plain "namespace" := .of_segment segment_namespace
theorem plain_name : Plain "name" := by apply plain_of_ident; rfl
theorem plain_kind : Plain "kind" := by apply plain_of_ident; rfl
theorem plain_subjects : Plain "subjects" := by apply plain_of_ident; rfl

theorem lookup_plain (q : String → Bool) (c : Nat) {name : String} (hp : Plain name) (s : Nat) (fs : Fields) :
    lookup q c 0 [name] (.map s fs) =
      match fieldChild c 0 name "" fs with
      | none => .ok (.map s fs, none)
      | some x => .ok (.map s (fieldPut name x fs), some x) := by
  rw [lookup, hp.clean, pathGet_field_last hp.field]
  cases fieldChild c 0 name "" fs <;> rfl

theorem lookup_plain_nocreate (q : String → Bool) {name : String} (hp : Plain name) (s : Nat) (fs : Fields) :
    lookup q 0 0 [name] (.map s fs) = .ok (.map s fs, fieldGet name fs) := by
  rw [lookup_plain q 0 hp, fieldChild_nocreate]
  cases h : fieldGet name fs with
  | none => rfl
  | some x => simp [fieldPut_self name fs x h]

/-- what the setter stores on a scalar (null or not): the namespace as a string, in the style of what was there -/
theorem setFn_scalar (q : String → Bool) (c : Cfg) (t v : String) (st : Nat)
    (h : c.unsetOnly = false ∨ hasExisting (.scalar t v st) = false) :
    setFn q c (.scalar t v st) = .ok (.scalar "!!str" c.ns st) := by
  have hc : (c.unsetOnly && hasExisting (.scalar t v st)) = false := by
    rcases h with h | h <;> simp [h]
  rw [setFn, hc, if_neg (by simp), scalarSetter_scalar q _ rfl]
  simp only [quoteIfNonString]
  split <;> rfl

theorem setFn_keeps (q : String → Bool) (c : Cfg) (n : Node) (hu : c.unsetOnly = true) (he : hasExisting n = true) :
    setFn q c n = .ok n := by
  simp [setFn, hu, he]

/-- `visitAll` is `FieldSpec.filterItems` written with the alternatives in another order -/
theorem visitAll_eq_filterItems (f : Node → Out Node) (is : List Node) : visitAll f is = FieldSpec.filterItems f is := by
  fun_induction FieldSpec.filterItems f is <;> simp [visitAll, *]

/-- `setNamespaceField` on a mapping: the setter runs on the `namespace` field (a fresh empty scalar if there is none)
    and its result is put back -/
theorem setNamespaceField_map (q : String → Bool) (c : Cfg) (s : Nat) (fs : Fields) :
    setNamespaceField q c (.map s fs) =
      (setFn q c ((fieldGet "namespace" fs).getD (.scalar "" "" 0))).bind fun f' =>
        .ok (.map s (fieldPut "namespace" f' fs)) := by
  rw [setNamespaceField, lookup_plain q 1 plain_namespace, fieldChild_create (by decide), partKind_empty,
    show emptyOfKind 1 0 = .scalar "" "" 0 from rfl]
  dsimp only
  cases setFn q c _ with
  | ok f' => simp only [Out.ok_bind, fieldReplace_put]  -- the result replaces the field `LookupCreate` has put there
  | _ => rfl

/-- the metadata pass on a namespaced resource is the field-spec filter along `metadata/namespace`, creating a scalar
    (its spec names no group, version or kind, so it matches every resource; the fuel is `FieldSpec.apply`'s
    `obj.size + (pathSplit path).length + 2` for the two segments) -/
theorem metaHack_namespaced (q : String → Bool) (c : Cfg) (g v k : String) (obj : Node) :
    metaHack q c false g v k obj =
      FieldSpec.filter q (setFn q c) true ⟨1, ""⟩ (obj.size + 4) ["metadata", "namespace"] obj := by
  have hps : FieldSpec.pathSplit "metadata/namespace" = ["metadata", "namespace"] := by
    rw [FieldSpec.pathSplit_ofList]; rfl
  simp [metaHack, FieldSpec.apply, FieldSpec.matchGVK, hps]

end Kust.NsFilter
