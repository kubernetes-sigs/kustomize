/-
  `FieldSpec.pathSplit` is `PathSplit.split '/'` (the field-spec model carries its own copy of the splitter), hence one
  left-to-right scan of the characters (`PathSplit.split_eq_splitScan`).
-/
import Kust.FieldSpec
import Kust.Lemmas.PathSplit
namespace Kust.FieldSpec
open Kust

theorem pathSplit_merge_eq (l acc : List String) : pathSplit.merge acc l = PathSplit.merge '/' acc l := by
  fun_induction PathSplit.merge '/' acc l with
  | case1 acc => rw [pathSplit.merge]
  | case2 p r ih => rw [pathSplit.merge, ih]
  | case3 last acc p r h ih => rw [pathSplit.merge, if_pos h]; exact ih  -- `"/"` is `String.singleton '/'`
  | case4 last acc p r h ih => rw [pathSplit.merge, if_neg h, ih]

theorem pathSplit_eq_split (p : String) : pathSplit p = PathSplit.split '/' p := by
  rw [pathSplit, PathSplit.split, pathSplit_merge_eq]
  congr 1
  generalize Str.splitChar '/' p = l
  -- the two ways of writing "drop an empty first piece when more follow"
  fun_cases PathSplit.dropLead l with
  | case1 => rfl
  | case2 l h =>
    split
    · exact (h _ _ rfl).elim
    · rfl

/-- the characters of a path are scanned once: the form in which the kernel evaluates `pathSplit` cheaply -/
theorem pathSplit_ofList (cs : List Char) :
    pathSplit (String.ofList cs) = (PathSplit.scan '/' (PathSplit.skipLead '/' cs) []).map String.ofList := by
  rw [pathSplit_eq_split, PathSplit.split_eq_splitScan, PathSplit.splitScan, String.toList_ofList]

end Kust.FieldSpec
