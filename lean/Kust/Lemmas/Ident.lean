/-
  Identifier-like names (a letter, then letters and digits) are plain field names for every function that looks at a
  path segment: `trimSpace`, `cleanPath`, `atoi?`, `classify`, `seqField`.  All on `String.ofList cs`, see
  `Kust.Lemmas.Str`.  (The namespace is `Kust.Str` although the functions are `Fns.*` and `FieldSpec.seqField`: what is
  characterised is a class of strings.)
-/
import Kust.FieldSpec
import Kust.Lemmas.Str
namespace Kust.Str
open Kust Fns FieldSpec

/-- a letter followed by letters and digits: the shape of every segment of the regenerated field-spec tables (what
    `C02.tables_paths_wellformed` evaluates), and of the field names the theorems mention -/
def identL : List Char → Bool
  | [] => false
  | c :: cs => c.isAlpha && cs.all Char.isAlphanum

theorem not_ws_of_alphanum {c : Char} (h : c.isAlphanum = true) : c.isWhitespace = false := by
  cases hw : c.isWhitespace with
  | false => rfl
  | true =>
    simp only [Char.isWhitespace, Bool.or_eq_true, decide_eq_true_eq] at hw
    rcases hw with ((rfl | rfl) | rfl) | rfl <;> exact absurd h (by decide)

theorem not_digit_of_alpha {c : Char} (h : c.isAlpha = true) : c.isDigit = false := by
  simp [Char.isAlpha, Char.isUpper, Char.isLower, Char.isDigit, UInt32.le_iff_toNat_le] at h ⊢
  omega

theorem identL_cons {cs : List Char} (h : identL cs = true) :
    ∃ c r, cs = c :: r ∧ c.isAlpha = true ∧ ∀ x ∈ cs, x.isAlphanum = true := by
  cases cs with
  | nil => cases h
  | cons c r =>
    simp only [identL, Bool.and_eq_true, List.all_eq_true] at h
    exact ⟨c, r, rfl, h.1, List.forall_mem_cons.mpr ⟨by simp [Char.isAlphanum, h.1], h.2⟩⟩

theorem dropWhile_ws_of_alphanum {l : List Char} (h : ∀ x ∈ l, x.isAlphanum = true) :
    l.dropWhile Char.isWhitespace = l := by
  cases l with
  | nil => rfl
  | cons c r => simp [List.dropWhile, not_ws_of_alphanum (h c (by simp))]

theorem trimSpace_ident {cs : List Char} (h : identL cs = true) : trimSpace (String.ofList cs) = String.ofList cs := by
  obtain ⟨_, _, _, _, hall⟩ := identL_cons h
  rw [trimSpace, trim_ofList, dropWhile_ws_of_alphanum hall,
    dropWhile_ws_of_alphanum (fun x hx => hall x (List.mem_reverse.mp hx)), List.reverse_reverse]

theorem ident_ne_empty {cs : List Char} (h : identL cs = true) : String.ofList cs ≠ "" :=
  fun e => by rw [String.ofList_eq_empty_iff.mp e] at h; cases h

theorem cleanPath_ident {cs : List Char} (h : identL cs = true) : cleanPath [String.ofList cs] = [String.ofList cs] := by
  simp only [cleanPath, List.map, trimSpace_ident h, List.filter, ident_ne_empty h, ne_eq, not_false_eq_true, decide_true]

theorem atoi?_ident {cs : List Char} (h : identL cs = true) : atoi? (String.ofList cs) = none := by
  obtain ⟨c, r, rfl, hc, _⟩ := identL_cons h
  simp only [atoi?, String.toList_ofList]
  split
  · next heq => cases heq; exact absurd hc (by decide)  -- no sign: `-` is not a letter
  · next heq => cases heq; exact absurd hc (by decide)  -- nor is `+`
  · exact if_pos (.inr (by simp [not_digit_of_alpha hc]))  -- and its first character is not a digit

theorem classify_ident {cs : List Char} (h : identL cs = true) :
    classify (String.ofList cs) = .ok (.field (String.ofList cs)) := by
  obtain ⟨c, r, rfl, hc, _⟩ := identL_cons h
  -- the first character is a letter, hence none of `-`, `*`, `[`
  have ne : ∀ d : Char, d.isAlpha = false → c ≠ d := fun d hd e => Bool.false_ne_true (hd.symm.trans (e ▸ hc))
  have hs : ∀ d : Char, d.isAlpha = false → String.ofList (c :: r) ≠ String.ofList [d] := fun d hd he =>
    ne d hd (List.cons.inj (String.ofList_injective he)).1
  have h3 : isListIndex (String.ofList (c :: r)) = false := by
    rw [isListIndex, show "[" = String.ofList ['['] from rfl, hasPrefix_ofList, isPrefixL,
      beq_false_of_ne (ne '[' rfl).symm]; rfl
  -- `classify` tests for a number, `-`, `*`, `[…]`, in this order
  rw [classify, atoi?_ident h, if_neg (hs '-' rfl : _ ≠ "-"), if_neg (hs '*' rfl : _ ≠ "*"), h3]; rfl

def stripSeqL (cs : List Char) : List Char :=
  if isPrefixL [']', '['] cs.reverse then (cs.reverse.drop 2).reverse else cs

theorem seqField_ofList (cs : List Char) :
    seqField (String.ofList cs) =
      (String.ofList (stripSeqL cs), isPrefixL [']', '['] cs.reverse) := by
  rw [seqField, show "[]" = String.ofList ['[', ']'] from rfl, hasSuffix_ofList, dropRight_ofList, stripSeqL,
    show ['[', ']'].reverse = [']', '['] from rfl]
  cases isPrefixL [']', '['] cs.reverse <;> rfl

theorem seqField_ident {cs : List Char} (h : identL cs = true) : seqField (String.ofList cs) = (String.ofList cs, false) := by
  obtain ⟨_, _, _, _, hall⟩ := identL_cons h
  -- a name ending in `[]` would contain `]`
  have hp : isPrefixL [']', '['] cs.reverse = false := by
    rw [← Bool.not_eq_true, isPrefixL_iff]
    exact fun hpre => absurd (hall ']' (List.mem_reverse.mp (hpre.subset (by simp)))) (by decide)
  rw [seqField_ofList, stripSeqL, hp]; rfl

end Kust.Str
