/-
  Kust.Sync — a small operational model of lock-protected shared state: threads are event lists, a lock can be
  acquired only when no thread holds it, a state is RACY when two different threads are both about to access the
  same location and at least one of them writes.  (Go's memory model and sync.RWMutex are assumed to behave like
  this; readers of an RWMutex are treated like writers, which only forbids more.)
-/
namespace Kust
namespace Sync

inductive Ev where
  | acq (l : Nat)
  | rel (l : Nat)
  | rd (x : Nat)
  | wr (x : Nat)
  deriving DecidableEq, Repr

structure Thread where
  held : List Nat
  prog : List Ev
  deriving Repr

abbrev State := Nat → Thread

/-- thread `p` takes its next step; acquiring a lock is enabled only if nobody holds it -/
inductive Step : State → State → Prop where
  | acq (s : State) (p l : Nat) (r : List Ev) (h : (s p).prog = .acq l :: r) (free : ∀ q, l ∉ (s q).held) :
      Step s (fun q => if q = p then ⟨l :: (s p).held, r⟩ else s q)
  | rel (s : State) (p l : Nat) (r : List Ev) (h : (s p).prog = .rel l :: r) :
      Step s (fun q => if q = p then ⟨(s p).held.erase l, r⟩ else s q)
  | rd (s : State) (p x : Nat) (r : List Ev) (h : (s p).prog = .rd x :: r) :
      Step s (fun q => if q = p then ⟨(s p).held, r⟩ else s q)
  | wr (s : State) (p x : Nat) (r : List Ev) (h : (s p).prog = .wr x :: r) :
      Step s (fun q => if q = p then ⟨(s p).held, r⟩ else s q)

inductive Reach (s0 : State) : State → Prop where
  | refl : Reach s0 s0
  | step {s t : State} : Reach s0 s → Step s t → Reach s0 t

def accesses (x : Nat) : Ev → Bool
  | .rd y => x = y
  | .wr y => x = y
  | _ => false

def isWrite : Ev → Bool
  | .wr _ => true
  | _ => false

/-- two threads are simultaneously about to touch `x`, one of them writing -/
def Racy (s : State) : Prop :=
  ∃ p q x e f r r', p ≠ q ∧ (s p).prog = e :: r ∧ (s q).prog = f :: r' ∧ accesses x e = true ∧ accesses x f = true ∧
    (isWrite e = true ∨ isWrite f = true)

/-- lock discipline of one thread, given the locks it holds: every access to `x` happens while `lockOf x` is held -/
def Disc (lockOf : Nat → Nat) : List Nat → List Ev → Prop
  | _, [] => True
  | held, .acq l :: r => Disc lockOf (l :: held) r
  | held, .rel l :: r => Disc lockOf (held.erase l) r
  | held, .rd x :: r => lockOf x ∈ held ∧ Disc lockOf held r
  | held, .wr x :: r => lockOf x ∈ held ∧ Disc lockOf held r

def Inv (lockOf : Nat → Nat) (s : State) : Prop :=
  (∀ p, Disc lockOf (s p).held (s p).prog) ∧ (∀ p q l, p ≠ q → l ∈ (s p).held → l ∉ (s q).held)

/-- the locks a thread holds after its event `e` -/
def heldAfter (held : List Nat) : Ev → List Nat
  | .acq l => l :: held
  | .rel l => held.erase l
  | _ => held

/-- every step: one thread `p` consumes its next event `e`; an acquired lock was free -/
theorem Step.spec {s t : State} (st : Step s t) : ∃ p e r, (s p).prog = e :: r ∧
    t = (fun q => if q = p then ⟨heldAfter (s p).held e, r⟩ else s q) ∧ ∀ l, e = .acq l → ∀ q, l ∉ (s q).held := by
  cases st with
  | acq p l r h free => exact ⟨p, _, r, h, rfl, fun _ e => by cases e; exact free⟩
  | rel p l r h | rd p l r h | wr p l r h => exact ⟨p, _, r, h, rfl, fun _ e => by cases e⟩

/-- the discipline, one event at a time: what the event accesses is covered by the locks held, and the rest of the
    program is disciplined under the locks held afterwards -/
theorem Disc.cons {lockOf : Nat → Nat} {held : List Nat} {e : Ev} {r : List Ev} (h : Disc lockOf held (e :: r)) :
    (∀ x, accesses x e = true → lockOf x ∈ held) ∧ Disc lockOf (heldAfter held e) r := by
  cases e with
  | acq l | rel l => exact ⟨fun _ ha => (nomatch ha), h⟩
  | rd y | wr y => exact ⟨fun x ha => of_decide_eq_true ha ▸ h.1, h.2⟩

theorem mem_heldAfter {held : List Nat} {e : Ev} {l : Nat} (h : l ∈ heldAfter held e) : l ∈ held ∨ e = .acq l := by
  cases e with
  | acq l' => exact (List.mem_cons.mp h).elim (fun e => .inr (e ▸ rfl)) .inl
  | rel l' => exact .inl (List.mem_of_mem_erase h)
  | rd x | wr x => exact .inl h

theorem step_inv (lockOf : Nat → Nat) (s t : State) (h : Inv lockOf s) (st : Step s t) : Inv lockOf t := by
  obtain ⟨hd, hx⟩ := h
  obtain ⟨p, e, r, hp, rfl, free⟩ := st.spec
  constructor
  · intro q
    by_cases hq : q = p
    · subst hq; simpa using (hp ▸ hd q).cons.2
    · simpa [hq] using hd q
  · -- a lock held after the step was held by the same thread before, or `p` has just acquired it (so it was free)
    have held : ∀ q l, l ∈ (if q = p then (⟨heldAfter (s p).held e, r⟩ : Thread) else s q).held →
        l ∈ (s q).held ∨ (q = p ∧ e = .acq l) := by
      intro q l h
      split at h
      · next hq => exact (mem_heldAfter h).imp (hq ▸ id) (⟨hq, ·⟩)
      · exact .inl h
    intro a b l hab ha hb
    rcases held a l ha with ha' | ⟨rfl, ea⟩ <;> rcases held b l hb with hb' | ⟨rfl, eb⟩
    · exact hx a b l hab ha' hb'
    · exact free l eb a ha'
    · exact free l ea b hb'
    · exact hab rfl

theorem reach_inv (lockOf : Nat → Nat) (s0 s : State) (h0 : Inv lockOf s0) (hr : Reach s0 s) : Inv lockOf s := by
  induction hr with
  | refl => exact h0
  | step _ st ih => exact step_inv lockOf _ _ ih st

/-- **lockset ⇒ no race**: if every thread follows the lock discipline (each access to a shared location happens
    while the location's lock is held) and initially no two threads hold a common lock, then in EVERY reachable
    state — every interleaving, any number of threads, any program lengths — no two threads are simultaneously
    about to access a location with one of them writing. -/
theorem lockset_drf (lockOf : Nat → Nat) (s0 s : State) (h0 : Inv lockOf s0) (hr : Reach s0 s) : ¬ Racy s := by
  obtain ⟨hd, hx⟩ := reach_inv lockOf s0 s h0 hr
  rintro ⟨p, q, x, e, f, r, r', hpq, hp, hq, he, hf, _⟩
  -- both threads hold the lock of `x`
  exact hx p q _ hpq ((hp ▸ hd p).cons.1 x he) ((hq ▸ hd q).cons.1 x hf)

end Sync
end Kust
