/- Reviewed expectations for the regenerated fact tables (`Kust/Gen/CodeFacts.lean`).
   Every entry was read in the source; the tag says why the site cannot make the result depend on map order /
   cannot be reached on valid input / is a recorded finding.  A regenerated table that differs from these lists
   fails the theorems that equate the two (`… = Reviewed.…`) in Props/C01, C05, C12, C16. -/
namespace Kust.Reviewed

def mapRangeSites : List (String × Nat × String) := [
  ("(*api/internal/accumulator.refVarTransformer).UnusedVars", 1, "collect-then-sort-or-set-algebra"),
  ("(*api/internal/builtins.PatchJson6902TransformerPlugin).Transform", 1, "insert-into-map-or-sorted-later"),
  ("(*api/internal/builtins.PatchTransformerPlugin).transformJson6902", 1, "insert-into-map-or-sorted-later"),
  ("(*api/types.Kustomization).FixKustomizationPreMarshalling", 1, "error-or-check-only"),
  ("(*api/types.VarSet).AsSlice", 1, "collect-then-sort-or-set-algebra"),
  ("(*api/types.VarSet).MergeSet", 1, "insert-into-map-or-sorted-later"),
  ("(*kyaml/fn/runtime/runtimeutil.ContainerEnv).GetDockerFlags", 1, "outside-build-domain (functions, package IO)"),
  ("(*kyaml/fn/runtime/runtimeutil.ContainerEnv).Raw", 1, "outside-build-domain (functions, package IO)"),
  ("(*kyaml/kio.ByteReader).decode", 1, "sets-annotations-on-one-node (order-independent writes to distinct keys)"),
  ("(*kyaml/kio.LocalPackageReadWriter).Write", 2, "outside-build-domain (functions, package IO)"),
  ("(*kyaml/yaml.ObjectMeta).DeepCopyInto", 2, "insert-into-map-or-sorted-later"),
  ("(*kyaml/yaml.PathMatcher).doIndexSeq", 1, "insert-into-map-or-sorted-later"),
  ("(*kyaml/yaml.PathMatcher).visitElem", 1, "insert-into-map-or-sorted-later"),
  ("(*kyaml/yaml.PathMatcher).visitEveryElem", 1, "insert-into-map-or-sorted-later"),
  ("(*kyaml/yaml.RNode).validateDataMap", 1, "error-or-check-only"),
  ("(*kyaml/yaml.YFilter).UnmarshalYAML", 1, "outside-build-domain (functions, package IO)"),
  ("(kyaml/kio.LocalPackageWriter).Write", 3, "outside-build-domain (functions, package IO)"),
  ("(kyaml/runfn.RunFns).mergeContainerEnv", 1, "outside-build-domain (functions, package IO)"),
  ("(kyaml/runfn.RunFns).mergeExecEnv", 1, "outside-build-domain (functions, package IO)"),
  ("(kyaml/sets.String).Difference", 1, "collect-then-sort-or-set-algebra"),
  ("(kyaml/sets.String).Intersection", 1, "collect-then-sort-or-set-algebra"),
  ("(kyaml/sets.String).List", 1, "collect-then-sort-or-set-algebra"),
  ("(kyaml/sets.String).SymmetricDifference", 2, "collect-then-sort-or-set-algebra"),
  ("(kyaml/yaml/internal/k8sgen/pkg/labels.Set).String", 1, "collect-then-sort-or-set-algebra"),
  ("(kyaml/yaml/internal/k8sgen/pkg/util/sets.String).Difference", 1, "collect-then-sort-or-set-algebra"),
  ("(kyaml/yaml/internal/k8sgen/pkg/util/sets.String).Intersection", 1, "collect-then-sort-or-set-algebra"),
  ("(kyaml/yaml/internal/k8sgen/pkg/util/sets.String).IsSuperset", 1, "collect-then-sort-or-set-algebra"),
  ("(kyaml/yaml/internal/k8sgen/pkg/util/sets.String).List", 1, "collect-then-sort-or-set-algebra"),
  ("(kyaml/yaml/internal/k8sgen/pkg/util/sets.String).PopAny", 1, "collect-then-sort-or-set-algebra"),
  ("(kyaml/yaml/internal/k8sgen/pkg/util/sets.String).Union", 2, "collect-then-sort-or-set-algebra"),
  ("(kyaml/yaml/internal/k8sgen/pkg/util/sets.String).UnsortedList", 1, "collect-then-sort-or-set-algebra"),
  ("api/internal/accumulator.debug", 1, "error-or-check-only"),
  ("api/internal/accumulator.loadCrdTypeIntoConfig", 1, "insert-into-map-or-sorted-later"),
  ("api/internal/accumulator.makeConfigFromApiMap", 1, "insert-into-map-or-sorted-later"),
  ("api/internal/plugins/builtinhelpers.makeStringToBuiltinPluginTypeMap", 2, "insert-into-map-or-sorted-later"),
  ("api/resource.mergeStringMaps", 1, "insert-into-map-or-sorted-later"),
  ("api/types.CopyMap", 1, "insert-into-map-or-sorted-later"),
  ("api/types.overrideMap", 1, "insert-into-map-or-sorted-later"),
  ("kyaml/fn/runtime/runtimeutil.StringToStorageMount", 1, "outside-build-domain (functions, package IO)"),
  ("kyaml/kio.determineAnnotationsFormat", 1, "insert-into-map-or-sorted-later"),
  ("kyaml/kio/kioutil.GetInternalAnnotations", 1, "insert-into-map-or-sorted-later"),
  ("kyaml/openapi.AddDefinitions", 1, "insert-into-map-or-sorted-later"),
  ("kyaml/openapi.findNamespaceability", 1, "insert-into-map-or-sorted-later"),
  ("kyaml/yaml.SortedMapKeys", 1, "collect-then-sort-or-set-algebra"),
  ("kyaml/yaml.hasNilEntryInList", 1, "error-or-check-only"),
  ("kyaml/yaml/internal/k8sgen/pkg/labels.SelectorFromValidatedSet", 1, "insert-into-map-or-sorted-later"),
  ("kyaml/yaml/internal/k8sgen/pkg/labels.ValidatedSelectorFromSet", 1, "insert-into-map-or-sorted-later")
]

def panicSites : List (String × String × Nat × String) := [
  ("(*api/resmap.Factory).FromResourceSlice", "panic", 1, "append of a single resource into an empty map"),
  ("(*api/resmap.Factory).FromResource", "panic", 1, "append of a single resource into an empty map"),
  ("(*api/resource.Factory).makeOne", "exit:log.Fatal", 1, "error of setting a field on a freshly built/validated mapping node"),
  ("(*api/resource.Resource).MustYaml", "exit:log.Fatal", 1, "debug/error-message helpers"),
  ("(*api/resource.Resource).PrevIds", "panic", 1, "finding C12-K1"),
  ("(*api/resource.Resource).RemoveBuildAnnotations", "panic", 1, "error of setting a field on a freshly built/validated mapping node"),
  ("(*api/resource.Resource).SetBehavior", "panic", 1, "error of setting a field on a freshly built/validated mapping node"),
  ("(*api/resource.Resource).appendCsvAnnotation", "panic", 1, "finding C12-K3"),
  ("(*api/resource.Resource).enable", "panic", 1, "error of setting a field on a freshly built/validated mapping node"),
  ("(*kyaml/openapi.ResourceSchema).PatchStrategyAndKeyList", "assert", 7, "assertions on extension values: guarded by type switch on schema built from parsed JSON (strings/arrays)"),
  ("(*kyaml/openapi.ResourceSchema).PatchStrategyAndKey", "assert", 2, "assertions on extension values: guarded by type switch on schema built from parsed JSON (strings/arrays)"),
  ("(*kyaml/yaml.RNode).MustString", "panic", 1, "debug/error-message helpers"),
  ("(*kyaml/yaml.RNode).SetBinaryDataMap", "exit:log.Fatal", 3, "error of setting a field on a freshly built/validated mapping node"),
  ("(*kyaml/yaml.RNode).SetDataMap", "exit:log.Fatal", 3, "error of setting a field on a freshly built/validated mapping node"),
  ("(kyaml/filesys.fsOnDisk).CleanedAbs", "exit:log.Fatalf", 3, "on-disk FS only: filepath.Abs/EvalSymlinks failure (finding under C18)"),
  ("api/filters/refvar.updateNodeValue", "assert", 1, "outside-build-domain (go plugins, vars)"),
  ("api/internal/accumulator.newNameReferenceTransformer", "exit:log.Fatal", 1, "embedded constant data only"),
  ("api/internal/plugins/builtinconfig.MakeDefaultConfig$1", "exit:log.Fatalf", 1, "embedded constant data only"),
  ("api/internal/plugins/loader.copyPlugin", "assert", 1, "outside-build-domain (go plugins, vars)"),
  ("api/internal/utils.TimedCall", "panic", 1, "outside-build-domain (go plugins, vars)"),
  ("kyaml/openapi.initSchema", "panic", 2, "finding C12-K2 (invalid custom schema) / embedded asset"),
  ("kyaml/openapi.parseBuiltinSchema", "panic", 1, "embedded constant data only"),
  ("kyaml/openapi/kubernetesapi/v1_21_2.MustAsset", "panic", 1, "embedded constant data only"),
  ("kyaml/openapi/kustomizationapi.MustAsset", "panic", 1, "embedded constant data only")
]

def fsReadSites : List (String × String × String) := [
  ("(*api/internal/loader.FileLoader).Load", "FileSystem.ReadFile", "THE restricted read (after the load restrictor)"),
  ("(*api/types.Kustomization).FixKustomizationPreMarshalling", "FileSystem.ReadFile", "edit-fix only (RTA over-approximation); tests whether a patch string is a file"),
  ("(kyaml/filesys.FileSystemOrOnDisk).Open", "FileSystem.Open", "file-system implementation itself"),
  ("(kyaml/filesys.FileSystemOrOnDisk).ReadFile", "FileSystem.ReadFile", "file-system implementation itself"),
  ("(kyaml/filesys.fsOnDisk).Glob", "path/filepath.Glob", "file-system implementation itself"),
  ("(kyaml/filesys.fsOnDisk).Open", "os.Open", "file-system implementation itself"),
  ("(kyaml/filesys.fsOnDisk).ReadDir", "os.ReadDir", "file-system implementation itself"),
  ("(kyaml/filesys.fsOnDisk).ReadFile", "os.ReadFile", "file-system implementation itself"),
  ("(kyaml/filesys.fsOnDisk).Walk", "path/filepath.Walk", "file-system implementation itself")
]

def mutableGlobals : List String := ["api/internal/plugins/builtinconfig.defaultConfig", "api/internal/plugins/loader.registry", "kyaml/openapi.customSchema", "kyaml/openapi.globalSchema", "kyaml/openapi.kubernetesOpenAPIVersion"]

/-- package-level variables whose address — or the shared object they point to — is handed to a call on the build path
    (outside `init`): the callee may keep state there.  (variable, callee, why it is no history channel) -/
def globalsByRef : List (String × String × String) := [
  ("api/internal/builtins.legalMergeOptions", "?", "read-only table (never written outside init: not in mutableGlobals)"),
  ("api/internal/builtins.prefixFieldSpecsToSkip", "?", "read-only table (never written outside init: not in mutableGlobals)"),
  ("api/internal/builtins.suffixFieldSpecsToSkip", "?", "read-only table (never written outside init: not in mutableGlobals)"),
  ("api/internal/plugins/builtinconfig.defaultConfig", "(*api/internal/plugins/builtinconfig.TransformerConfig).DeepCopy", "read-only: copied before use"),
  ("api/internal/plugins/builtinconfig.initDefaultConfig", "(*sync.Once).Do", "one-time initialisation of an immutable table"),
  ("api/kv.utf8bom", "bytes.TrimPrefix", "read-only table (never written outside init: not in mutableGlobals)"),
  ("api/resource.BuildAnnotations", "?", "read-only table (never written outside init: not in mutableGlobals)"),
  ("ext:encoding/base64.StdEncoding", "(*encoding/base64.Encoding).Encode", "immutable codec"),
  ("ext:encoding/base64.StdEncoding", "(*encoding/base64.Encoding).EncodedLen", "immutable codec"),
  ("kyaml/fn/runtime/runtimeutil.functionAnnotationKeys", "?", "read-only table (never written outside init: not in mutableGlobals)"),
  ("kyaml/kio.JSONMatch", "?", "read-only table (never written outside init: not in mutableGlobals)"),
  ("kyaml/kio.requiredResourcePackageAnnotations", "?", "read-only table (never written outside init: not in mutableGlobals)"),
  ("kyaml/openapi.customSchema", "kyaml/openapi.parse", "read under the schema lock by the caller (initSchema); written only by SetSchema under the lock"),
  ("kyaml/openapi.schemaLock", "(*sync.RWMutex).Lock", "the schema lock itself"),
  ("kyaml/openapi.schemaLock", "(*sync.RWMutex).RLock", "the schema lock itself"),
  ("kyaml/openapi.schemaLock", "(*sync.RWMutex).RUnlock", "the schema lock itself"),
  ("kyaml/openapi.schemaLock", "(*sync.RWMutex).Unlock", "the schema lock itself"),
  ("kyaml/openapi/kubernetesapi/v1_21_2._kubernetesapiV1_21_2SwaggerPb", "kyaml/openapi/kubernetesapi/v1_21_2.bindataRead", "embedded constant data"),
  ("kyaml/openapi/kustomizationapi._kustomizationapiSwaggerJson", "kyaml/openapi/kustomizationapi.bindataRead", "embedded constant data"),
  ("kyaml/resid.orderFirst", "?", "read-only table (never written outside init: not in mutableGlobals)"),
  ("kyaml/resid.orderLast", "?", "read-only table (never written outside init: not in mutableGlobals)"),
  ("kyaml/yaml.AssociativeSequenceKeys", "?", "read-only table (never written outside init: not in mutableGlobals)"),
  ("kyaml/yaml.fieldSortOrder", "?", "read-only table (never written outside init: not in mutableGlobals)")
]

end Kust.Reviewed
