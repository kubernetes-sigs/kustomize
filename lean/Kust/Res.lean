/-
  Kust.Res — resource identity and the bookkeeping of the renaming transformers.

  Transliterates: kyaml/resid (ResId.Equals / EffectiveNamespace), api/resource/resource.go (CurId, StorePreviousId,
  PrevIds, OrgId, appendCsvAnnotation), api/internal/utils/makeResIds.go (PrevIds), api/resmap/reswrangler.go (Append),
  api/internal/builtins/{Prefix,Suffix,Namespace}Transformer.go (who records what, who is skipped).

  The real code keeps previous ids in three parallel comma-joined annotations; the model keeps the three lists
  (`appendCsv` skips empty values exactly like `appendCsvAnnotation`), so a length mismatch — the `panic(err)` of
  `Resource.PrevIds` — is expressible.
  `cs : Gvk → Bool` is `IsClusterScoped` (regenerated scope table ⊕ schema view), a parameter.
-/
import Kust.Node
namespace Kust
namespace Res

structure Gvk where
  group : String
  version : String
  kind : String
  deriving DecidableEq, Repr, Inhabited

structure ResId where
  gvk : Gvk
  name : String
  ns : String
  deriving DecidableEq, Repr, Inhabited

/-- `ResId.EffectiveNamespace` -/
def effNs (cs : Gvk → Bool) (id : ResId) : String :=
  if cs id.gvk then "_non_namespaceable_"
  else if id.ns = "" ∨ id.ns = "default" then "default"
  else id.ns

/-- `ResId.Equals` -/
def idEquals (cs : Gvk → Bool) (a b : ResId) : Bool :=
  effNs cs a = effNs cs b ∧ a.name = b.name ∧ a.gvk = b.gvk

theorem idEquals_symm (cs : Gvk → Bool) (a b : ResId) : idEquals cs a b = idEquals cs b a := by
  simp only [idEquals, eq_comm]

theorem idEquals_refl (cs : Gvk → Bool) (a : ResId) : idEquals cs a a = true := by simp [idEquals]

/-! ### ResMap.Append -/

/-- `resWrangler.Append`: refuses an id that is already registered. -/
def append (cs : Gvk → Bool) (m : List ResId) (r : ResId) : Out (List ResId) :=
  if m.any (fun x => idEquals cs x r) then .err "conflict" else .ok (m ++ [r])

def appendAll (cs : Gvk → Bool) : List ResId → List ResId → Out (List ResId)
  | m, [] => .ok m
  | m, r :: rs =>
    match append cs m r with
    | .ok m' => appendAll cs m' rs
    | .err c => .err c
    | .panic c => .panic c

/-- no two registered ids are `Equals` -/
def IdsUnique (cs : Gvk → Bool) (m : List ResId) : Prop :=
  m.Pairwise (fun a b => idEquals cs a b = false)

theorem IdsUnique.snoc {cs : Gvk → Bool} {m : List ResId} {r : ResId} (hu : IdsUnique cs m)
    (h : ∀ a ∈ m, idEquals cs a r = false) : IdsUnique cs (m ++ [r]) :=
  List.pairwise_append.mpr ⟨hu, List.pairwise_singleton _ _, fun a ha b hb => by
    cases List.mem_singleton.mp hb; exact h a ha⟩

theorem append_unique (cs : Gvk → Bool) (m m' : List ResId) (r : ResId)
    (hu : IdsUnique cs m) (h : append cs m r = .ok m') : IdsUnique cs m' := by
  unfold append at h
  split at h
  · cases h
  · next hnew => cases h; exact hu.snoc (by simpa using hnew)

theorem appendAll_unique (cs : Gvk → Bool) (rs m m' : List ResId) (hu : IdsUnique cs m)
    (h : appendAll cs m rs = .ok m') : IdsUnique cs m' := by
  fun_induction appendAll cs m rs with
  | case1 => cases h; exact hu
  | case2 m r rs m1 h1 ih => exact ih (append_unique cs m m1 r hu h1) h
  | case3 | case4 => cases h

/-! ### previous-id bookkeeping -/

structure R where
  gvk : Gvk
  name : String
  ns : String
  pNames : List String := []
  pNss : List String := []
  pKinds : List String := []
  prefixes : List String := []
  suffixes : List String := []
  deriving DecidableEq, Repr, Inhabited

/-- `appendCsvAnnotation`: an empty value is skipped -/
def appendCsv (l : List String) (v : String) : List String := if v = "" then l else l ++ [v]

def R.curId (r : R) : ResId := ⟨r.gvk, r.name, r.ns⟩

/-- `StorePreviousId` -/
def R.storePrev (cs : Gvk → Bool) (r : R) : R :=
  { r with pNames := appendCsv r.pNames r.name,
           pNss := appendCsv r.pNss (effNs cs r.curId),
           pKinds := appendCsv r.pKinds r.gvk.kind }

def zip3 (gvk : Gvk) : List String → List String → List String → List ResId
  | n :: ns, s :: ss, k :: ks => ⟨{ gvk with kind := k }, n, s⟩ :: zip3 gvk ns ss ks
  | _, _, _ => []

/-- `Resource.PrevIds`: `panic(err)` when the three lists differ in length -/
def R.prevIds (r : R) : Out (List ResId) :=
  if r.pNames = [] then .ok []
  else if r.pNames.length = r.pNss.length ∧ r.pNames.length = r.pKinds.length then
    .ok (zip3 r.gvk r.pNames r.pNss r.pKinds)
  else .panic "PrevIds: number of previous names, namespaces, kinds not equal"

/-- `OrgId` -/
def R.orgId (r : R) : Out ResId :=
  match r.prevIds with
  | .ok [] => .ok r.curId
  | .ok (i :: _) => .ok i
  | .err c => .err c
  | .panic c => .panic c

/-- the three lists are aligned -/
def R.Aligned (r : R) : Prop := r.pNames.length = r.pNss.length ∧ r.pNames.length = r.pKinds.length

/-- the resource has a name and a kind (what `GetValidatedMetadata` checks at load) -/
def R.Named (r : R) : Prop := r.name ≠ "" ∧ r.gvk.kind ≠ ""

theorem effNs_ne_empty (cs : Gvk → Bool) (id : ResId) : effNs cs id ≠ "" := by
  fun_cases effNs cs id with
  | case1 | case2 => simp  -- a non-empty literal
  | case3 _ h => exact fun he => h (.inl he)

theorem storePrev_aligned (cs : Gvk → Bool) (r : R) (ha : r.Aligned) (hn : r.Named) :
    (r.storePrev cs).Aligned := by
  obtain ⟨h1, h2⟩ := ha
  obtain ⟨n1, n2⟩ := hn
  simp [R.storePrev, R.Aligned, appendCsv, n1, n2, effNs_ne_empty, h1.symm, h2.symm]

/-- **no panic on an aligned resource**: `PrevIds` returns (and so does `OrgId`: next theorem) -/
theorem prevIds_ok_of_aligned {r : R} (ha : r.Aligned) : ∃ ids, r.prevIds = .ok ids := by
  unfold R.prevIds
  split
  · exact ⟨_, rfl⟩
  · exact ⟨_, if_pos ha⟩

theorem prevIds_no_panic (r : R) (ha : r.Aligned) : r.prevIds.isPanic = false := by
  obtain ⟨ids, h⟩ := prevIds_ok_of_aligned ha
  rw [h]; rfl

theorem orgId_ok_of_aligned {r : R} (ha : r.Aligned) : ∃ i, r.orgId = .ok i := by
  obtain ⟨ids, h⟩ := prevIds_ok_of_aligned ha
  unfold R.orgId
  rw [h]
  cases ids <;> exact ⟨_, rfl⟩

/-- finding C12-K1: a resource whose name was removed (JSON patch `remove /metadata/name`) loses alignment at
    the next `StorePreviousId`, and `PrevIds` panics. -/
theorem Witness.nameless_prevIds_panics :
    let r0 : R := { gvk := ⟨"", "v1", "ConfigMap"⟩, name := "a", ns := "" }
    let r1 := r0.storePrev (fun _ => false)          -- e.g. namePrefix of an inner layer
    let r2 := { r1 with name := "" }                  -- JSON patch: remove /metadata/name
    (r2.storePrev (fun _ => false)).prevIds.isPanic = true := by decide +kernel

/-! ### renaming transformers -/

/-- `PrefixTransformerPlugin.Transform` on one resource (field spec `metadata/name`, no GVK);
    `skip` = kinds of `prefixFieldSpecsToSkip` matched against the ORIGINAL id. -/
def prefixStep (cs : Gvk → Bool) (skip : String → Bool) (p : String) (r : R) : Out R :=
  match r.orgId with
  | .ok oid =>
    if skip oid.gvk.kind then .ok r
    else
      let r1 := { r with prefixes := appendCsv r.prefixes p }
      let r2 := if p ≠ "" then r1.storePrev cs else r1
      .ok { r2 with name := p ++ r2.name }
  | .err c => .err c
  | .panic c => .panic c

def suffixStep (cs : Gvk → Bool) (skip : String → Bool) (s : String) (r : R) : Out R :=
  match r.orgId with
  | .ok oid =>
    if skip oid.gvk.kind then .ok r
    else
      let r1 := { r with suffixes := appendCsv r.suffixes s }
      let r2 := if s ≠ "" then r1.storePrev cs else r1
      .ok { r2 with name := r2.name ++ s }
  | .err c => .err c
  | .panic c => .panic c

/-- `NamespaceTransformerPlugin.Transform` on one resource (default field specs, `UnsetOnly = false`):
    records the previous id, then sets `metadata.namespace` unless the kind is certainly cluster-scoped;
    a `v1 Namespace` object is renamed. -/
def nsStep (cs : Gvk → Bool) (n : String) (r : R) : R :=
  if n = "" then r
  else
    let r1 := r.storePrev cs
    let r2 := if cs r1.gvk then r1 else { r1 with ns := n }
    if r2.gvk.kind = "Namespace" ∧ r2.gvk.group = "" ∧ r2.gvk.version = "v1" then { r2 with name := n } else r2

/-- one layer = optional namespace, prefix, suffix (the regenerated transformer order: namespace, prefix, suffix) -/
structure Layer where
  ns : String := ""
  pre : String := ""
  suf : String := ""
  deriving Repr, DecidableEq

def layerStep (cs : Gvk → Bool) (skip : String → Bool) (l : Layer) (r : R) : Out R :=
  match prefixStep cs skip l.pre (nsStep cs l.ns r) with
  | .ok r1 => suffixStep cs skip l.suf r1
  | .err c => .err c
  | .panic c => .panic c

def layers (cs : Gvk → Bool) (skip : String → Bool) : List Layer → R → Out R
  | [], r => .ok r
  | l :: ls, r =>
    match layerStep cs skip l r with
    | .ok r1 => layers cs skip ls r1
    | .err c => .err c
    | .panic c => .panic c

/-! ### legacy order (SortOrderTransformer) -/

def gvkString (g : Gvk) : String :=
  (if g.group = "" then "~G" else g.group) ++ "_" ++ (if g.version = "" then "~V" else g.version) ++ "_" ++
    (if g.kind = "" then "~K" else g.kind)

/-- `resid.Gvk.String()` as used inside `legacyResIDSortString` -/
def gvkDisplay (g : Gvk) : String :=
  let k := if g.kind = "" then "[noKind]" else g.kind
  let v := if g.version = "" then "[noVer]" else g.version
  let gr := if g.group = "" then "[noGrp]" else g.group
  k ++ "." ++ v ++ "." ++ gr

def idSortString (id : ResId) : String :=
  gvkDisplay id.gvk ++ "|" ++ (if id.ns = "" then "~X" else id.ns) ++ "|" ++ (if id.name = "" then "~N" else id.name)

def indexOf? (xs : List String) (x : String) : Option Nat :=
  match xs with
  | [] => none
  | y :: ys => if y = x then some 0 else (indexOf? ys x).map (· + 1)

/-- `typeOrders[kind]` over the regenerated `orderFirst` / `orderLast` lists (0 for kinds in neither) -/
def typeOrder (first last : List String) (kind : String) : Int :=
  match indexOf? last kind with
  | some i => 1 + i
  | none =>
    match indexOf? first kind with
    | some i => (i : Int) - first.length
    | none => 0

def gvkLess (first last : List String) (g1 g2 : Gvk) : Bool :=
  let i1 := typeOrder first last g1.kind
  let i2 := typeOrder first last g2.kind
  if i1 ≠ i2 then i1 < i2
  else if (g1.kind = "Namespace" ∧ g2.kind = "Namespace") ∧ (g1.group = "" ∨ g2.group = "") then
    gvkString g2 < gvkString g1
  else gvkString g1 < gvkString g2

/-- `legacyIDSorter.Less` -/
def legacyLess (first last : List String) (a b : ResId) : Bool :=
  if a.gvk ≠ b.gvk then gvkLess first last a.gvk b.gvk
  else idSortString a < idSortString b

/-- the non-strict comparator handed to a sorting function -/
def legacyLe (first last : List String) (a b : ResId) : Bool := !legacyLess first last b a

end Res
end Kust
