/-
  C05 (on-disk clause) — "paths are de-symlinked before the containment test; a base at or above a root in use is a
  cycle, judged after resolution".  Theorems about `Kust.PathDisk` (lexical cleaning, then physical link resolution),
  tied to the real loader on a real directory tree with symbolic links by the correspondence `path.disk`.
-/
import Kust.PathDisk
namespace Kust.C05
open Kust Kust.PathDisk

/-- every non-empty prefix of `p` (and `p` itself) is a real directory: no link lies on the way -/
def PhysDir (fs : Fs) (p : List String) : Prop := ∀ q, q <+: p → q ≠ [] → lookup fs q = some .dir

theorem physDir_nil (fs : Fs) : PhysDir fs [] :=
  fun _ hq hne => absurd (List.prefix_nil.mp hq) hne

theorem physDir_dropLast (fs : Fs) (p : List String) (h : PhysDir fs p) : PhysDir fs p.dropLast :=
  fun q hq => h q (hq.trans (List.dropLast_prefix p))

theorem physDir_snoc (fs : Fs) (p : List String) (c : String) (h : PhysDir fs p)
    (hc : lookup fs (p ++ [c]) = some .dir) : PhysDir fs (p ++ [c]) := by
  intro q hq hne
  rcases List.prefix_concat_iff.mp hq with e | hq'
  · subst e; exact hc
  · exact h q hq' hne

theorem physDir_lookup {fs : Fs} {p : List String} (h : PhysDir fs p) : lookup fs p = some .dir := by
  by_cases hp : p = []
  · subst hp; rfl
  · exact h p (List.prefix_refl p) hp

/-- what `EvalSymlinks` returns is a physical location: a directory reached through directories only, or a file in one -/
def Phys (fs : Fs) (q : List String) : Prop :=
  PhysDir fs q ∨ ∃ d c x, q = d ++ [c] ∧ PhysDir fs d ∧ lookup fs q = some (.file x)

theorem resolve_phys {fs : Fs} {n : Nat} {cur rest q : List String} :
    PhysDir fs cur → resolve fs n cur rest = .ok q → Phys fs q := by
  fun_induction resolve fs n cur rest
  case case2 => intro hcur h; exact .inl (Out.ok.inj h ▸ hcur)                     -- nothing left to walk
  case case3 ih => exact ih                                                        -- "" or "."
  case case5 ih => exact fun hcur => ih (physDir_dropLast fs _ hcur)               -- ".." to the parent
  case case7 hd ih => exact fun hcur => ih (physDir_snoc fs _ _ hcur hd)           -- into a directory
  case case8 x hf _ =>                                                             -- a file ends the walk
    intro hcur h; exact .inr ⟨_, _, x, (Out.ok.inj h).symm, hcur, Out.ok.inj h ▸ hf⟩
  case case10 ih => exact fun _ => ih (physDir_nil fs)                             -- an absolute link: from the root
  case case11 ih => exact ih                                                       -- a relative link
  all_goals intro _ h; cases h                                                     -- the errors

/-- what `CleanedAbs` returns: the directory is a physical one; a file name comes back only for a file that is there -/
theorem disk_cleanedAbs_spec {fs : Fs} {path : String} {d : List String} {f : String}
    (h : cleanedAbs fs path = .ok (d, f)) :
    PhysDir fs d ∧ (f ≠ "" → ∃ x, lookup fs (d ++ [f]) = some (.file x)) := by
  revert h
  fun_cases cleanedAbs fs path
  case case2 hr hq =>
    -- `q` is a directory: a physical file location would not look up as a directory
    intro h; obtain ⟨rfl, rfl⟩ := Prod.mk.inj (Out.ok.inj h)
    refine ⟨?_, fun hne => absurd rfl hne⟩
    rcases resolve_phys (physDir_nil fs) hr with hp | ⟨_, _, _, _, _, hfile⟩
    · exact hp
    · cases hq.symm.trans hfile
  case case3 hr _ hq =>
    -- `q` is a file: a physical directory would not look up as a file
    intro h; obtain ⟨rfl, rfl⟩ := Prod.mk.inj (Out.ok.inj h)
    rcases resolve_phys (physDir_nil fs) hr with hp | ⟨d0, c0, x', rfl, hp, hfile⟩
    · cases (physDir_lookup hp).symm.trans hq
    · rw [List.dropLast_concat, List.getLast?_concat, Option.getD_some]
      exact ⟨hp, fun _ => ⟨x', hfile⟩⟩
  all_goals intro h; cases h

/-- **a successful load reads inside the root, judged after link resolution.** Whatever the spelling of the path
    (relative, absolute, through links to anywhere, with `..` before or after links) and whatever links the tree
    holds: if `Load` returns a content, it is the content of a file whose directory is a real directory (no link on
    the way to it) at or below the loader's root. -/
theorem disk_load_confined (fs : Fs) (root : List String) (path c : String) (h : loaderLoad fs root path = .ok c) :
    ∃ d f, PhysDir fs d ∧ Path.isPrefixC root d = true ∧ lookup fs (d ++ [f]) = some (.file c) := by
  revert h
  fun_cases loaderLoad fs root path
  case case3 hca _ hpre _ hl =>     -- a file below the root
    intro h; obtain rfl := Out.ok.inj h
    exact ⟨_, _, (disk_cleanedAbs_spec hca).1, by simpa using hpre, hl⟩
  all_goals intro h; cases h

/-- **a new root is a real directory that is neither a root in use nor above one**, judged after link resolution -/
theorem disk_new_root_checked (fs : Fs) (stack : List (List String)) (path : String) (d : List String)
    (h : loaderNew fs stack path = .ok d) :
    PhysDir fs d ∧ ∀ r ∈ stack, Path.isPrefixC d r = false := by
  revert h
  fun_cases loaderNew fs stack path
  case case6 hca _ hany =>     -- the one branch that succeeds
    intro h; rw [if_neg hany] at h; obtain rfl := Out.ok.inj h   -- (the last test is left standing in `h`)
    exact ⟨(disk_cleanedAbs_spec hca).1, fun r hr =>
      Bool.eq_false_iff.mpr fun hp => hany (List.any_eq_true.mpr ⟨r, hr, hp⟩)⟩
  case case5 hany => intro h; rw [if_pos hany] at h; cases h    -- at or above a root in use
  all_goals intro h; cases h

/-- the premises are satisfiable, and links matter: `l1 -> ../outside` makes `l1/f.yaml` a file outside the root
    (refused), while `l1/../f.yaml` is cleaned lexically to `f.yaml` first (inside) -/
example :
    let fs : Fs := [(["top"], .dir), (["top", "root"], .dir), (["top", "outside"], .dir),
      (["top", "root", "f.yaml"], .file "ROOT"), (["top", "outside", "f.yaml"], .file "OUTSIDE"),
      (["top", "root", "l1"], .link "../outside"), (["top", "root", "up"], .link "..")]
    loaderLoad fs ["top", "root"] "l1/f.yaml" = .err "security" ∧
    loaderLoad fs ["top", "root"] "l1/../f.yaml" = .ok "ROOT" ∧
    loaderLoad fs ["top", "root"] "f.yaml" = .ok "ROOT" ∧
    loaderNew fs [["top", "root"]] "up" = .err "cycle" := by decide +kernel

end Kust.C05
