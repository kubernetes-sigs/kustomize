/-
  C10 — "directives change exactly what they select": the `images:` part, theorems about `Kust.Image`.  Replacements are
  in C10b (flat resources) and C10c (trees), selectors in C10d; replicas and whole builds are left to the oracle.
-/
import Kust.Image
namespace Kust.C10
open Kust Image

theorem stripPrefix_iff (p s r : List Char) : stripPrefix p s = some r ↔ s = p ++ r := by
  fun_induction stripPrefix p s <;> simp_all [eq_comm]

/-- an image reference is matched by an entry named `t` exactly when it is `t` followed by
    an optional `:tag` and an optional `@sha256:digest` — `t` is compared literally, character by character. -/
theorem image_match_exact (s t : String) :
    isImageMatched s t = true ↔ ∃ r, s.toList = t.toList ++ r ∧ matchRest r = true := by
  simp only [isImageMatched, ← stripPrefix_iff]
  cases stripPrefix t.toList s.toList <;> simp

/-- **never a longer name**: whatever follows the name starts a tag or a digest — `nginx` never matches
    `nginx2`, `nginx-extra` or `nginx.io/x`. -/
theorem rest_starts_tag_or_digest (c : Char) (r : List Char) (h : matchRest (c :: r) = true) : c = ':' ∨ c = '@' := by
  unfold matchRest at h
  rcases Bool.or_eq_true _ _ ▸ h with h | h
  · -- a digest starts with `@`
    have hs : "@sha256:".toList = '@' :: "sha256:".toList := by decide
    rw [matchDigest, hs, stripPrefix] at h
    exact .inr (Decidable.byContradiction fun hc => by simp [Ne.symm hc] at h)
  · -- a tag starts with `:`
    split at h
    · exact .inl (List.cons.inj ‹_›).1
    · cases h

/-- **never a shorter name**: a match begins with the whole entry name -/
theorem match_has_prefix (s t : String) (h : isImageMatched s t = true) : ∃ r, s.toList = t.toList ++ r :=
  let ⟨r, hr, _⟩ := (image_match_exact s t).mp h
  ⟨r, hr⟩

/-- an image that is not matched is left exactly as it is -/
theorem unmatched_untouched (e : Entry) (v : String) (h : isImageMatched v e.name = false) : update e v = v := by
  simp [update, h]

/-- kernel-evaluated instances: near misses are not matched, tag and digest are composed as documented -/
example : isImageMatched "nginx:1.0" "nginx" = true ∧ isImageMatched "nginx@sha256:abc" "nginx" = true ∧
    isImageMatched "nginx2:1" "nginx" = false ∧ isImageMatched "mynginx" "nginx" = false ∧
    isImageMatched "xzy" "x.y" = false ∧ isImageMatched "registry:5000/nginx:3" "registry:5000/nginx" = true ∧
    isImageMatched "nginx.io/x" "nginx" = false ∧ isImageMatched "a(" "a(" = true := by decide +kernel

example : split "registry:5000/nginx:3" = ("registry:5000/nginx", "3", "") ∧
    split "nginx:1.0@sha256:abcd" = ("nginx", "1.0", "sha256:abcd") ∧ split "busybox@sha256:abcd" = ("busybox", "", "sha256:abcd") := by
  decide +kernel

example : update { name := "nginx", newTag := "9.9" } "nginx:1.0@sha256:abcd" = "nginx:9.9" ∧
    update { name := "nginx", digest := "sha256:ffff" } "nginx:1.0" = "nginx@sha256:ffff" ∧
    update { name := "nginx", newName := "other/repo" } "nginx:1.0" = "other/repo:1.0" ∧
    update { name := "nginx", newName := "o", newTag := "t", digest := "sha256:d" } "nginx" = "o:t@sha256:d" ∧
    update { name := "nginx", newTag := "9" } "mynginx:1" = "mynginx:1" := by decide +kernel

/-! ### what a matched image becomes — four rows of the decision table of `SetImageValue` (the `tagSuffix` row has no
    theorem), for every image text -/

/-- the name part of the result: `newName` when given, else the name part of the image -/
def outName (e : Entry) (v : String) : String := if e.newName ≠ "" then e.newName else (split v).1

/-- **newTag and digest both given**: both are written, whatever tag/digest the image carried -/
theorem update_tag_and_digest (e : Entry) (v : String) (hm : isImageMatched v e.name = true)
    (ht : e.newTag ≠ "") (hd : e.digest ≠ "") :
    update e v = outName e v ++ ":" ++ e.newTag ++ "@" ++ e.digest := by
  simp [update, hm, ht, hd, outName, String.append_assoc]

/-- **newTag only**: the tag is replaced and an existing digest is DROPPED (a digest pins other content) -/
theorem update_tag_only (e : Entry) (v : String) (hm : isImageMatched v e.name = true)
    (ht : e.newTag ≠ "") (hd : e.digest = "") :
    update e v = outName e v ++ ":" ++ e.newTag := by
  simp [update, hm, ht, hd, outName, String.append_assoc]

/-- **digest only**: the digest is written and an existing tag is dropped -/
theorem update_digest_only (e : Entry) (v : String) (hm : isImageMatched v e.name = true)
    (ht : e.newTag = "") (hd : e.digest ≠ "") :
    update e v = outName e v ++ "@" ++ e.digest := by
  simp [update, hm, ht, hd, outName, String.append_assoc]

/-- **newName only**: tag and digest of the image are kept as they were split -/
theorem update_name_only (e : Entry) (v : String) (hm : isImageMatched v e.name = true)
    (ht : e.newTag = "") (hd : e.digest = "") (hs : e.tagSuffix = "") :
    update e v = outName e v ++ (if (split v).2.1 ≠ "" then ":" ++ (split v).2.1 else "") ++
      (if (split v).2.2 ≠ "" then "@" ++ (split v).2.2 else "") := by
  simp [update, hm, ht, hd, hs, outName]

/-- the hypotheses are met by ordinary entries -/
example : isImageMatched "nginx:1.0@sha256:abcd" "nginx" = true ∧
    update { name := "nginx", newTag := "2" } "nginx:1.0@sha256:abcd" = "nginx:2" := by decide +kernel

/-- the pre-repair matcher used the name as a regular expression: `x.y` matched `xzy` (witness for the fixed
    finding, stated on a one-wildcard model of the old behaviour) -/
def oldDotMatches (name img : List Char) : Bool :=
  name.length = img.length && (name.zip img).all fun (a, b) => a = '.' || a = b
theorem Witness.old_regex_name_matched_other_image : oldDotMatches "x.y".toList "xzy".toList = true := by decide +kernel

end Kust.C10
