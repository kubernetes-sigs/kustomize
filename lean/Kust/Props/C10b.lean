/-
  C10 (replacement clause) — "A replacement copies the source field's value verbatim into exactly the selected,
  non-rejected target fields (honouring delimiter/index options), and every resource or field not selected is left
  untouched."  Theorems about the model `Kust.Repl` of api/filters/replacement/replacement.go, which is tied to the
  Go filter by the correspondence component `repl.apply` on every run.
-/
import Kust.Lemmas.Repl
import Kust.Lemmas.ReplSplit
namespace Kust.C10
open Kust Kust.Repl

/-! ### what is not selected is left untouched -/

/-- **frame, whole list.** A resource that no target of any replacement in the list selects is in the output exactly
    as it was in the input — whatever the other resources, sources, options and reject lists are. -/
theorem unselected_untouched :
    ∀ (rs : List Repl) (st st' : State), applyAll rs st = .ok st' →
      st'.length = st.length ∧ ∀ (i : Nat) r, st[i]? = some r →
        (∀ rp ∈ rs, ∀ t ∈ rp.targets, selected t r = false) → st'[i]? = some r := by
  intro rs st st' h
  obtain ⟨hl, hf⟩ := applyAll_frame h
  refine ⟨hl, fun i r hr hs => ?_⟩
  obtain ⟨r', hr', -, -, hsame⟩ := hf i r hr
  rw [hr', hsame (fun ⟨rp, hrp, t, ht, hsel⟩ => by simp [hs rp hrp t ht] at hsel)]

/-- **frame, fields.** A field that no target of the list names keeps its value on every resource, selected or not;
    no resource is dropped or reordered, and no kind changes. -/
theorem unnamed_field_untouched :
    ∀ (rs : List Repl) (st st' : State), applyAll rs st = .ok st' →
      ∀ (i : Nat) r, st[i]? = some r → ∃ r', st'[i]? = some r' ∧ r'.kind = r.kind ∧
        ∀ g, (∀ rp ∈ rs, ∀ t ∈ rp.targets, g ∉ fieldsOf t) → getF r' g = getF r g := by
  intro rs st st' h i r hr
  obtain ⟨r', hr', hk, hg, -⟩ := (applyAll_frame h).2 i r hr
  exact ⟨r', hr', hk, fun g hn => hg g (fun ⟨rp, hrp, t, ht, hmem⟩ => hn rp hrp t ht hmem)⟩

/-! ### what is selected receives the value verbatim -/

/-- **verbatim copy (`sourceValue`).** A replacement with a literal source and one target without a delimiter writes exactly
    that literal into every named field of every selected resource. -/
theorem literal_copied_verbatim (v : String) (t : Target) (hnd : NoDelim t) (st st' : State)
    (h : applyRepl ⟨.value v, [t]⟩ st = .ok st') :
    ∀ (i : Nat) r, st[i]? = some r → selected t r = true →
      ∃ r', st'[i]? = some r' ∧ ∀ f ∈ fieldsOf t, getF r' f = some v := by
  intro i r hr hsel
  obtain ⟨_, hv, ht⟩ := applyRepl_ok h
  cases hv
  -- one target: `applyTargets` is `applyTarget`
  cases h1 : applyTarget (.const v) t st <;> simp only [applyTargets, h1] at ht <;> cases ht
  exact applyTargetFrom_writes hnd h1 hr (Nat.zero_le _) (by simpa using (List.getElem?_eq_some_iff.mp hr).1) hsel

/-! ### the source: unique, read from the current state -/

/-- **the source is unique and current.** When a field source resolves, exactly one resource of the CURRENT state is
    selected by the source selector, the field exists on it, and the value handed to the targets is that field's
    current content (live, no delimiter) or the addressed piece of it (delimiter/index). -/
theorem source_unique_and_current (st : State) (sel : Sel) (f : Option FRef) (o : Option Opts) (val : Val)
    (h : resolve st (.field sel f o) = .ok val) :
    ∃ i r v, st[i]? = some r ∧ idSel sel r = true ∧
      (∀ (i' : Nat) r', st[i']? = some r' → idSel sel r' = true → i' = i) ∧
      getF r (f.getD .name) = some v ∧
      ((val = .live i (f.getD .name) ∧ readVal st val = .ok v ∧ (∀ o', o = some o' → o'.delim = "")) ∨
       (∃ o' p, o = some o' ∧ o'.delim ≠ "" ∧ 0 ≤ o'.index ∧ (split o'.delim v)[o'.index.toNat]? = some p ∧ val = .const p)) := by
  simp only [resolve] at h
  split at h
  · cases h
  · rename_i i hm
    split at h; · cases h
    rename_i r hr
    split at h; · cases h
    rename_i v hv
    -- `srcMatches` lists exactly the selected indices, and it is `[i]`
    have hmem {i'} : i' = i ↔ ∃ r', st[i']? = some r' ∧ idSel sel r' = true := by
      rw [← mem_srcMatches, hm, List.mem_singleton]
    obtain ⟨r', hr', hsel⟩ := hmem.1 rfl
    cases hr.symm.trans hr'
    refine ⟨i, r, v, hr, hsel, fun i' r' hr' hs' => hmem.2 ⟨r', hr', hs'⟩, hv, ?_⟩
    rcases refine_ok h with ⟨rfl, hnd⟩ | h
    · exact Or.inl ⟨rfl, by simp [readVal, hr, hv], hnd⟩
    · exact Or.inr h
  · cases h

/-! ### strictly sequential -/

theorem applyAll_append (rs qs : List Repl) (st : State) :
    applyAll (rs ++ qs) st = (applyAll rs st).bind (applyAll qs) := by
  fun_induction applyAll rs st <;> simp [applyAll, Out.bind, *]

/-- **each replacement sees what its predecessors wrote.** The last replacement of a list is applied to — and
    resolves its source in — the state produced by all the replacements before it, never the original input. -/
theorem last_sees_predecessors (rs : List Repl) (r : Repl) (st : State) :
    applyAll (rs ++ [r]) st = (applyAll rs st).bind (applyRepl r) := by
  rw [applyAll_append]
  congr; funext st1
  cases h : applyRepl r st1 <;> simp [applyAll, h]

/-! ### delimiter / index on the target -/

theorem setPieces_replace (idx : Int) (v : String) (tv : List String) (h0 : 0 ≤ idx) (h1 : idx < tv.length) :
    (setPieces idx v tv).length = tv.length ∧ (setPieces idx v tv)[idx.toNat]? = some v ∧
      ∀ j, j ≠ idx.toNat → (setPieces idx v tv)[j]? = tv[j]? := by
  rw [setPieces, if_neg (Int.not_lt.mpr h0), if_neg (Int.not_le.mpr h1)]
  exact ⟨List.length_set, List.getElem?_set_self (by omega), fun j hj => List.getElem?_set_ne (Ne.symm hj)⟩

theorem setPieces_prefix (idx : Int) (v : String) (tv : List String) (h : idx < 0) :
    setPieces idx v tv = v :: tv := by simp [setPieces, h]

theorem setPieces_suffix (idx : Int) (v : String) (tv : List String) (h : idx ≥ tv.length) :
    setPieces idx v tv = tv ++ [v] := by
  rw [setPieces, if_neg (by omega), if_pos h]

theorem mem_setPieces {idx : Int} {v p : String} {tv : List String} : p ∈ setPieces idx v tv → p = v ∨ p ∈ tv := by
  fun_cases setPieces idx v tv <;> intro h
  · simpa using h
  · simpa [or_comm] using h
  · exact (List.mem_or_eq_of_mem_set h).symm

theorem setPieces_ne_nil {idx : Int} {v : String} {tv : List String} (h : tv ≠ []) : setPieces idx v tv ≠ [] := by
  fun_cases setPieces idx v tv <;> simp [h]

/-- **honouring delimiter/index on the target.** With a one-character delimiter `c` and a value free of `c`, the new
    content of the target field, split again, is the old list of pieces with exactly the addressed piece replaced
    (or the value prefixed / suffixed when the index is out of range) — every other piece is kept as it was. -/
theorem target_pieces_exact (c : Char) (idx : Int) (cr : Bool) (old v : String) (hv : c ∉ v.toList) :
    split (String.singleton c) (newValue (some ⟨String.singleton c, idx, cr⟩) old v)
      = setPieces idx v (split (String.singleton c) old) := by
  have hne : String.singleton c ≠ "" := fun e => by simpa using congrArg String.toList e
  simp only [newValue, hne, if_false]
  -- splitting undoes joining, because no piece holds the delimiter: the old ones are pieces of a split, `v` by `hv`
  exact split_join_char c _ (setPieces_ne_nil (split_ne_nil _ _)) fun p hp =>
    (mem_setPieces hp).elim (fun e => e ▸ hv) (split_pieces_free c old p)

/-- **honouring delimiter/index on the source.** The value taken from a delimited source is the addressed piece. -/
theorem source_piece (i : Nat) (f : FRef) (o : Opts) (v : String) (val : Val) (hd : o.delim ≠ "")
    (h : refine (some o) i f v = .ok val) :
    ∃ p, val = .const p ∧ 0 ≤ o.index ∧ (split o.delim v)[o.index.toNat]? = some p := by
  rcases refine_ok h with ⟨-, hnd⟩ | ⟨o', p, e, -, h0, hp, rfl⟩
  · exact absurd (hnd o rfl) hd
  · cases e; exact ⟨p, rfl, h0, hp⟩

/-! ### the premises are satisfiable; chains behave sequentially -/

/-- two ConfigMaps: `settings` (image = app:1.0.0) and `release` (version = 2.0.0), and a Deployment-like `web` -/
def exState : State :=
  [⟨"ConfigMap", "settings", none, some [("image", "app:1.0.0")]⟩,
   ⟨"ConfigMap", "release", none, some [("version", "2.0.0")]⟩,
   ⟨"Deployment", "web", some [("version", "0")], some [("image", "none")]⟩]

/-- 1: release.version → piece 1 of settings.image; 2: piece 1 of settings.image → web's label; 3: settings.image → web.image -/
def exChain : List Repl :=
  [⟨.field ⟨"ConfigMap", "release", none⟩ (some (.data "version")) none,
     [⟨⟨"ConfigMap", "settings", none⟩, [], [.data "image"], some ⟨":", 1, false⟩⟩]⟩,
   ⟨.field ⟨"ConfigMap", "settings", none⟩ (some (.data "image")) (some ⟨":", 1, false⟩),
     [⟨⟨"Deployment", "", none⟩, [], [.label "version"], none⟩]⟩,
   ⟨.field ⟨"ConfigMap", "settings", none⟩ (some (.data "image")) none,
     [⟨⟨"Deployment", "", none⟩, [], [.data "image"], none⟩]⟩]

/-- the later replacements read what the first one wrote (2.0.0, not the 1.0.0 of the input) -/
example : applyAll exChain exState = .ok
    [⟨"ConfigMap", "settings", none, some [("image", "app:2.0.0")]⟩,
     ⟨"ConfigMap", "release", none, some [("version", "2.0.0")]⟩,
     ⟨"Deployment", "web", some [("version", "2.0.0")], some [("image", "app:2.0.0")]⟩] := by decide +kernel

example : NoDelim ⟨⟨"Deployment", "", none⟩, [], [.label "version"], none⟩ := by intro o h; cases h

example : selected ⟨⟨"Deployment", "", none⟩, [], [.label "version"], none⟩ ⟨"Deployment", "web", some [("version", "0")], none⟩ = true := by decide +kernel

end Kust.C10
