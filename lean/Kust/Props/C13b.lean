/-
  C13 (document order) — "Reading a YAML stream of mapping documents … preserves … the document order": theorems about
  `Kust.KioRead.read`, the model of the loop of ByteReader.Read, tied by the correspondence `kio.read`.
-/
import Kust.KioRead
namespace Kust.C13
open Kust KioRead

/-- what the reader keeps of a stream when nothing is unwrapped: the mapping documents, in order, numbered from `idx` -/
def kept : Nat → Nat → List Doc → List Node
  | _, _, [] => []
  | i, idx, .res _ _ _ :: r => Node.doc i idx :: kept (i + 1) (idx + 1) r
  | i, idx, _ :: r => kept (i + 1) idx r

theorem go_no_unwrap (d : Bool) (n : Nat) (h : d = true ∨ n ≠ 1) (vs : List Doc) (i idx : Nat) :
    go d n i idx vs = kept i idx vs := by
  fun_induction go d n i idx vs
  case case1 => rfl
  case case2 ih | case3 ih => simpa [kept] using ih        -- blank, null
  case case4 hc _ =>                                       -- the unwrapping branch: `h` excludes its test `hc`
    simp only [Bool.and_eq_true, Bool.not_eq_true', beq_iff_eq] at hc
    rcases h with rfl | h
    · cases hc.1.1
    · exact absurd hc.1.2 h
  case case5 ih => simpa [kept] using ih                   -- a mapping document

/-- **a wrapper beside other documents is a document**: in a stream of two or more values — whatever their kinds, a
    `List` or `ResourceList` first, last or in the middle — nothing is unwrapped: every mapping document becomes one
    resource, in stream order, stamped 0, 1, 2, … -/
theorem multi_document_never_unwrapped (d : Bool) (vs : List Doc) (h : vs.length ≠ 1) : read d vs = kept 0 0 vs :=
  go_no_unwrap d vs.length (Or.inr h) vs 0 0

theorem disabled_never_unwrapped (vs : List Doc) : read true vs = kept 0 0 vs :=
  go_no_unwrap true vs.length (Or.inl rfl) vs 0 0

theorem kept_lb (vs : List Doc) (i idx : Nat) : ∀ x ∈ kept i idx vs, ∃ dx ix, x = .doc dx ix ∧ i ≤ dx ∧ idx ≤ ix := by
  fun_induction kept i idx vs with
  | case1 => simp
  | case2 i idx _ _ _ r ih =>     -- a mapping document
    intro x hx
    rcases List.mem_cons.mp hx with rfl | hx
    · exact ⟨i, idx, rfl, Nat.le_refl _, Nat.le_refl _⟩
    · obtain ⟨dx, ix, e, h1, h2⟩ := ih x hx
      exact ⟨dx, ix, e, Nat.le_of_succ_le h1, Nat.le_of_succ_le h2⟩
  | case3 i idx v r _ ih =>       -- blank or null
    intro x hx
    obtain ⟨dx, ix, e, h1, h2⟩ := ih x hx
    exact ⟨dx, ix, e, Nat.le_of_succ_le h1, h2⟩

/-- the kept documents are in stream order, with increasing reader indexes -/
theorem kept_order : ∀ (vs : List Doc) (i idx : Nat), (kept i idx vs).Pairwise (fun a b =>
    match a, b with
    | .doc da ia, .doc db ib => da < db ∧ ia < ib
    | _, _ => False) := by
  intro vs i idx
  fun_induction kept i idx vs with
  | case1 => exact List.Pairwise.nil
  | case2 i idx _ _ _ r ih =>     -- a mapping document: all later ones lie beyond it
    refine List.pairwise_cons.mpr ⟨fun x hx => ?_, ih⟩
    obtain ⟨dx, ix, rfl, h1, h2⟩ := kept_lb r _ _ x hx
    exact ⟨h1, h2⟩
  | case3 _ _ _ _ _ ih => exact ih

/-- **a wrapper that is the whole stream is unwrapped**: its items come out in order (with
    `multi_document_never_unwrapped`: no other stream is) -/
theorem lone_wrapper_unwrapped (kind : String) (k : Nat) (fc : Bool) (hk : kind = "List" ∨ kind = "ResourceList") :
    read false [.res kind (some k) fc] = (List.range k).map (Node.item 0) := by
  rcases hk with rfl | rfl <;> simp [KioRead.read, go, isWrapper]

/-- a lone document of any other kind is a document -/
theorem lone_other_kind_kept (kind : String) (it : Option Nat) (fc : Bool) (h1 : kind ≠ "List") (h2 : kind ≠ "ResourceList") :
    read false [.res kind it fc] = [Node.doc 0 0] := by
  simp [KioRead.read, go, isWrapper, h1, h2]

example : read false [.res "List" (some 2) false, .blank, .res "ConfigMap" none false]
    = [Node.doc 0 0, Node.doc 2 1] := by decide +kernel

end Kust.C13
