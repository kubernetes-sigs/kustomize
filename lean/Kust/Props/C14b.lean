/-
  C14 (PathMatcher clause) — "the slash-separated field-spec paths … visit exactly the nodes that a reference
  interpretation of the path denotes", for the fanning-out matcher of kyaml/yaml/match.go (replacement targets).
  Theorems about the model `Kust.Match.pathMatch`, tied to `yaml.PathMatcher` by the correspondence `match.path`.
  `hit` (Go regexp on the serialised scalar) and `ns` are parameters of every statement.
-/
import Kust.Lemmas.Match
namespace Kust.C14
open Kust Node Fns Kust.Match

/-- **a matcher that does not create never changes the document** — for every path (selectors, indices, `*`, empty
    parts included), every document and every behaviour of the regular-expression test -/
theorem match_nocreate_doc (hit : String → Node → Out Bool) (ns : String → Bool) :
    ∀ (p : List String) (d d' : Node) (ps : List Pos), pathMatch hit ns 0 p d = .ok (d', ps) → d' = d := by
  intro p
  induction p with
  | nil => intro d d' ps h; cases h; rfl
  | cons part rest ih =>
    intro d d' ps h
    rw [pathMatch] at h
    obtain ⟨-, h⟩ | ⟨-, h⟩ := ite_eq_cases h
    · obtain ⟨i, s, is, e, e', qs, -, he, hr, rfl, -, hrn⟩ := matchIdx_ok h
      cases hrn.resolve_right (·.1 rfl)
      rw [ih _ _ _ hr, set_of_getElem? he]  -- the element is put back where it was
    obtain ⟨-, h⟩ | ⟨-, h⟩ := ite_eq_cases h
    · obtain ⟨k, pat, -, ⟨-, -, e1, -⟩ | ⟨s, is, js, is', rfl, hv, rfl, hjs⟩⟩ := matchSel_ok h
      · exact e1
      · cases hjs.resolve_right (·.1 rfl)
        rw [visit_id (fun _ _ _ _ hf => (selElem_ok hf).elim (ih _ _ _) (·.1)) hv]
    obtain ⟨-, h⟩ | ⟨-, h⟩ := ite_eq_cases h
    · rcases matchStar_ok h with ⟨-, e1, -⟩ | ⟨s, is, is', rfl, hv, rfl⟩
      · exact e1
      · rw [visit_id (fun _ _ _ _ hr => ih _ _ _ hr) hv]
    obtain ⟨-, h⟩ | ⟨hne, h⟩ := ite_eq_cases h
    · exact (matchEmpty_ok h).elim (ih _ _ _) (·.2.1)
    rcases matchField_ok hne h with ⟨-, e1, -⟩ | ⟨s, fs, x, x', qs, rfl, hr, rfl, -, hx⟩
    · exact e1
    · rw [ih _ _ _ hr, fieldPut_self part fs _ (hx.resolve_right (·.1 rfl))]

/-- **the matcher visits exactly the nodes the reference interpretation denotes.** Without creation, for every path
    free of empty parts and every document: when `PathMatcher` returns, the positions it reports — in order — are
    those of `Match.denote`, the plain reading of the path (fields descend, an index picks one element, `[k=v]`
    filters by the field, `[=v]` by the element itself, `*` takes every element). -/
theorem match_denotes (hitB : String → Node → Bool) (ns : String → Bool) :
    ∀ (p : List String), "" ∉ p → ∀ (d d' : Node) (ps : List Pos),
      pathMatch (fun a b => .ok (hitB a b)) ns 0 p d = .ok (d', ps) → ps = denote hitB p d := by
  intro p
  induction p with
  | nil => intro _ d d' ps h; cases h; rfl
  | cons part rest ih =>
    intro hp d d' ps h
    have hpart : part ≠ "" := fun e => hp (by simp [e])
    have ih := ih (fun e => hp (by simp [e]))
    rw [pathMatch] at h
    rw [denote]
    obtain ⟨h1, h⟩ | ⟨h1, h⟩ := ite_eq_cases h
    · rw [if_pos h1]; exact matchIdx_den ih h
    obtain ⟨h2, h⟩ | ⟨h2, h⟩ := ite_eq_cases h
    · rw [if_neg h1, if_pos h2]; exact matchSel_den ih h
    obtain ⟨h3, h⟩ | ⟨h3, h⟩ := ite_eq_cases h
    · rw [if_neg h1, if_neg h2, if_pos h3]; exact matchStar_den ih h
    rw [if_neg h1, if_neg h2, if_neg h3]
    rw [if_neg hpart] at h
    exact matchField_den ih hpart h

/-- the premises are satisfiable, the fan-out is real: `[name=a]` selects both `a` and `ab` (the pattern is an
    unanchored test), `*` every element -/
example :
    let hitB : String → Node → Bool := fun pat n => match n with
      | .scalar _ v _ => (v = pat) || (v = "ab" && pat = "a")
      | _ => false
    let doc : Node := .map 0 [("items", .seq 0 [
      .map 0 [("name", .scalar "!!str" "a" 0), ("v", .scalar "!!int" "1" 0)],
      .map 0 [("name", .scalar "!!str" "b" 0), ("v", .scalar "!!int" "2" 0)],
      .map 0 [("name", .scalar "!!str" "ab" 0), ("v", .scalar "!!int" "3" 0)]])]
    pathMatch (fun a b => .ok (hitB a b)) (fun _ => false) 0 ["items", "[name=a]", "v"] doc
        = .ok (doc, [[.key "items", .idx 0, .key "v"], [.key "items", .idx 2, .key "v"]]) ∧
      denote hitB ["items", "*", "v"] doc
        = [[.key "items", .idx 0, .key "v"], [.key "items", .idx 1, .key "v"], [.key "items", .idx 2, .key "v"]] := by
  decide +kernel

theorem denoteElems_resolves {sel : Node → Bool} {sub : Node → List Pos} (hsub : ∀ e, Resolves e (sub e)) (s : Nat)
    (is : List Node) : Resolves (.seq s is) (denoteElems sel sub 0 is) := by
  intro pos hp
  obtain ⟨j, e, q, hj, -, hq, rfl⟩ := denoteElems_mem is 0 hp
  rw [Nat.zero_add, getAt_idx q hj]
  exact hsub e q hq

/-- the positions the reference interpretation denotes address nodes of the document -/
theorem denote_resolves (hitB : String → Node → Bool) : ∀ (p : List String) (d : Node), Resolves d (denote hitB p d) :=
  denote_induct hitB Resolves .nil .here .cons denoteElems_resolves

/-- every position the matcher reports addresses a node of the document it returns: for every path (empty parts
    included), with creation or without -/
theorem match_resolves (hit : String → Node → Out Bool) (ns : String → Bool) (c : Nat) :
    ∀ (p : List String) (d d' : Node) (ps : List Pos), pathMatch hit ns c p d = .ok (d', ps) → Resolves d' ps := by
  intro p
  induction p with
  | nil => intro d d' ps h; cases h; exact Resolves.here _
  | cons part rest ih =>
    intro d d' ps h
    rw [pathMatch] at h
    obtain ⟨-, h⟩ | ⟨-, h⟩ := ite_eq_cases h
    · obtain ⟨i, s, is, e, e', qs, -, he, hr, rfl, rfl, -⟩ := matchIdx_ok h
      exact .cons (getAt_idx [] (List.getElem?_set_self (List.getElem?_eq_some_iff.mp he).1)) (ih _ _ _ hr)
    obtain ⟨-, h⟩ | ⟨-, h⟩ := ite_eq_cases h
    · obtain ⟨k, pat, -, ⟨-, -, -, rfl⟩ | ⟨s, is, js, is', -, hv, rfl, -⟩⟩ := matchSel_ok h
      · exact .nil _
      · refine visit_resolves (fun _ _ _ _ hf => ?_) s hv
        rcases selElem_ok hf with hr | ⟨-, rfl | rfl⟩
        · exact ih _ _ _ hr
        · exact .nil _
        · exact .here _
    obtain ⟨-, h⟩ | ⟨-, h⟩ := ite_eq_cases h
    · rcases matchStar_ok h with ⟨-, -, rfl⟩ | ⟨s, is, is', rfl, hv, rfl⟩
      · exact .nil _
      · exact visit_resolves (fun _ _ _ _ hr => ih _ _ _ hr) s hv
    obtain ⟨-, h⟩ | ⟨hne, h⟩ := ite_eq_cases h
    · exact matchEmpty_resolves _ ih _ _ _ _ h
    rcases matchField_ok hne h with ⟨-, -, rfl, -⟩ | ⟨s, fs, x, x', qs, -, hr, rfl, rfl, -⟩
    · exact .nil _
    · exact .cons (getAt_key [] (fieldGet_put_same _ _ _)) (ih _ _ _ hr)

/-- **every position the matcher reports addresses a node of the document it returns** — with creation or without,
    for every path without empty parts, every document, every creation kind and every behaviour of the
    regular-expression test (the replacement filter then writes at exactly these positions) -/
theorem match_positions_resolve_create (hit : String → Node → Out Bool) (ns : String → Bool) (c : Nat)
    (p : List String) (hp : "" ∉ p) (d d' : Node) (ps : List Pos) (h : pathMatch hit ns c p d = .ok (d', ps)) :
    ∀ pos ∈ ps, (getAt pos d').isSome := by
  have _ := hp  -- not needed: `match_resolves` holds for every path
  exact match_resolves hit ns c p d d' ps h

/-- … in particular without creation (no empty parts) -/
theorem match_positions_resolve (hitB : String → Node → Bool) (ns : String → Bool) (p : List String) (hp : "" ∉ p)
    (d d' : Node) (ps : List Pos) (h : pathMatch (fun a b => .ok (hitB a b)) ns 0 p d = .ok (d', ps)) :
    ∀ pos ∈ ps, (getAt pos d').isSome :=
  match_positions_resolve_create _ ns 0 p hp d d' ps h

/-- creation is exercised: `[name=new]` on a list without such an element appends `{name: new}` and reports it -/
example : pathMatch (fun pat n => .ok (match n with | .scalar _ v _ => v = pat | _ => false)) (fun _ => false) 1
    ["items", "[name=new]", "v"] (.map 0 [("items", .seq 0 [.map 0 [("name", .scalar "!!str" "a" 0)]])])
    = .ok (.map 0 [("items", .seq 0 [.map 0 [("name", .scalar "!!str" "a" 0)],
              .map 0 [("name", .scalar "" "new" 0), ("v", .scalar "" "" 0)]])],
           [[.key "items", .idx 1, .key "v"]]) := by decide +kernel

end Kust.C14
