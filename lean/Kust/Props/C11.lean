/-
  C11 — kustomizations compose transparently: legacy order is input-order independent; affixes accumulate as the
  nesting prescribes.
  `sort` is ANY function meeting `SortSpec` (Go's pdqsort is not modelled); the comparator is the transliterated
  `legacyIDSorter.Less` over the REGENERATED `orderFirst`/`orderLast` lists.
-/
import Kust.Sort
import Kust.Lemmas.Res
import Kust.Gen.Lists
namespace Kust.C11
open Kust Res

abbrev le := legacyLe Gen.orderFirst Gen.orderLast

/-- **legacy order is one fixed order, independent of input order**: for every sorting function and every two
    permutations of an id list on which the comparator is antisymmetric (distinct ids have distinct sort keys —
    hypothesis `AsciiIds` of DESIGN, forced by the `~G/~V/~K/~X/~N` placeholders and the string joins). -/
theorem legacy_order_input_independent (sort : List ResId → List ResId) (hs : SortSpec le sort)
    (l₁ l₂ : List ResId) (anti : AntisymmOn le l₁) (h : l₁.Perm l₂) : sort l₁ = sort l₂ :=
  sort_perm_invariant hs anti h

theorem legacy_sort_idempotent (sort : List ResId → List ResId) (hs : SortSpec le sort)
    (l : List ResId) (anti : AntisymmOn le l) : sort (sort l) = sort l :=
  sort_idem hs anti

def sample : List ResId :=
  [⟨⟨"apps", "v1", "Deployment"⟩, "web", "ns1"⟩, ⟨⟨"", "v1", "Namespace"⟩, "ns1", ""⟩,
   ⟨⟨"", "v1", "ConfigMap"⟩, "cfg", ""⟩, ⟨⟨"", "v1", "ConfigMap"⟩, "cfg", "ns1"⟩,
   ⟨⟨"admissionregistration.k8s.io", "v1", "ValidatingWebhookConfiguration"⟩, "hook", ""⟩,
   ⟨⟨"example.com", "v1", "MyKind"⟩, "x", ""⟩]

/-- non-vacuity: the antisymmetry hypothesis holds on a concrete mixed list (kernel-evaluated comparator) -/
example : sample.all (fun a => sample.all (fun b => !(le a b && le b a) || a == b)) = true := by decide +kernel

/-- … and the order is the documented one: Namespace first, webhook last, unknown kinds in between -/
example : [sample[1]!, sample[3]!, sample[2]!, sample[0]!, sample[5]!, sample[4]!].Pairwise
    (fun a b => le a b = true) := by decide +kernel

/-- the order lists have no duplicates and are disjoint (else `typeOrder` would be ambiguous) -/
theorem order_lists_wellformed :
    Gen.orderFirst.Nodup ∧ Gen.orderLast.Nodup ∧ Gen.orderFirst.all (fun k => !Gen.orderLast.contains k) = true := by
  decide +kernel

/-! ### affix accumulation -/

/-- the name the nesting prescribes: each layer wraps the name of the inner ones -/
def affixName : List Layer → String → String
  | [], n => n
  | l :: ls, n => affixName ls (l.pre ++ n ++ l.suf)

def prefixesOuterFirst (ls : List Layer) : String := (ls.reverse.map (·.pre)).foldr (· ++ ·) ""
def suffixesInnerFirst (ls : List Layer) : String := (ls.map (·.suf)).foldr (· ++ ·) ""

theorem foldr_append_acc (xs : List String) (acc : String) :
    xs.foldr (· ++ ·) acc = xs.foldr (· ++ ·) "" ++ acc := by
  simpa using List.foldr_assoc (α := String) (op := (· ++ ·)) (l := xs) (a₁ := "") (a₂ := acc)

/-- `affixName` is "outer prefix outermost": P_outer … P_inner ++ name ++ S_inner … S_outer -/
theorem affixName_eq (ls : List Layer) (n : String) :
    affixName ls n = prefixesOuterFirst ls ++ n ++ suffixesInnerFirst ls := by
  induction ls generalizing n with
  | nil => simp [affixName, prefixesOuterFirst, suffixesInnerFirst]
  | cons l ls ih =>
    rw [affixName, ih]
    simp only [prefixesOuterFirst, suffixesInnerFirst, List.reverse_cons, List.map_append, List.map_cons,
      List.map_nil, List.foldr_append, List.foldr_cons, List.foldr_nil, String.append_empty]
    rw [foldr_append_acc _ l.pre]
    simp only [String.append_assoc]

/-- through any chain of layers that skips no kind (`skip` is constantly `false`: what happens
    beside the kinds of the skip list is outside this statement) a resource that is not a Namespace object (which the
    namespace directive renames) is named exactly as the nesting prescribes. -/
theorem affix_accumulation (cs : Gvk → Bool) :
    ∀ (ls : List Layer) (r r' : R), r.gvk.kind ≠ "Namespace" →
      layers cs (fun _ => false) ls r = .ok r' → r'.name = affixName ls r.name := by
  intro ls r r' hk he
  fun_induction layers cs (fun _ => false) ls r with
  | case1 => cases he; rfl
  | case2 l ls r r1 h1 ih =>
    rw [ih (by rw [(layerStep_renamed h1).gvk]; exact hk) he, layerStep_name h1 hk, affixName]
  | case3 | case4 => cases he

/-- the kinds skipped by the prefix/suffix transformers are the regenerated list (reviewed value) -/
theorem skip_list_expected : Gen.prefixSkipKinds = ["CustomResourceDefinition", "APIService", "Namespace"] := rfl

/-! ### wrapping -/

theorem empty_append (s : String) : "" ++ s = s := String.empty_append
theorem append_empty (s : String) : s ++ "" = s := String.append_empty

/-- **a layer without directives changes nothing** — not the name, not the namespace, not even the bookkeeping -/
theorem empty_layer_noop (cs : Gvk → Bool) (skip : String → Bool) (r : R) (ha : r.Aligned) :
    layerStep cs skip {} r = .ok r := layerStep_empty cs skip ha

/-- a chain of layers is run front to back: the layers of an overlay see what the layers below it produced -/
theorem layers_append (cs : Gvk → Bool) (skip : String → Bool) : ∀ (l1 l2 : List Layer) (r r1 : R),
    layers cs skip l1 r = .ok r1 → layers cs skip (l1 ++ l2) r = layers cs skip l2 r1 := by
  intro l1 l2 r r1 h
  fun_induction layers cs skip l1 r with
  | case1 => cases h; rfl
  | case2 l l1 r r0 h0 ih => rw [List.cons_append, layers, h0]; exact ih h
  | case3 | case4 => cases h

/-- a wrapper UNDER the directives (an inner layer without directives) is transparent -/
theorem inner_wrap_transparent (cs : Gvk → Bool) (skip : String → Bool) (ls : List Layer) (r : R) (h : r.Good) :
    layers cs skip (({} : Layer) :: ls) r = layers cs skip ls r := by
  rw [layers, layerStep_empty cs skip h.1]

/-- layers without directives are transparent wherever they stand in the chain -/
theorem layers_drop_empty (cs : Gvk → Bool) (skip : String → Bool) (ls : List Layer) (r : R) (h : r.Good) :
    layers cs skip (ls.filter (· ≠ {})) r = layers cs skip ls r := by
  induction ls generalizing r with
  | nil => rfl
  | cons l ls ih =>
    by_cases hl : l = {}
    · rw [hl, List.filter_cons_of_neg (by simp), inner_wrap_transparent cs skip ls r h]
      exact ih r h
    · rw [List.filter_cons_of_pos (by simpa using hl), layers, layers]
      cases h1 : layerStep cs skip l r with
      | ok r1 => exact ih r1 ((layerStep_renamed h1).good h)
      | err c => rfl
      | panic c => rfl

/-- **wrapping is transparent**: listing a kustomization in an overlay that has no directives of its own — any number of
    such overlays — gives every resource exactly what the wrapped kustomization gives it -/
theorem wrap_transparent (cs : Gvk → Bool) (skip : String → Bool) (ls : List Layer) (n : Nat) (r r' : R) (h : r.Good)
    (he : layers cs skip ls r = .ok r') : layers cs skip (ls ++ List.replicate n ({} : Layer)) r = .ok r' := by
  -- with the layers without directives dropped, both chains are the same
  rw [← he, ← layers_drop_empty cs skip (ls ++ _) r h, ← layers_drop_empty cs skip ls r h, List.filter_append,
    List.filter_replicate]
  simp

end Kust.C11
