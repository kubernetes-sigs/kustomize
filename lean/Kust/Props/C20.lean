/-
  C20 — canonical formatting is idempotent and preserves meaning.
  Statements are about `Fmt.fmtN` (transliteration of formatter.fmtNode, tied by component fmt.node) for ANY
  `Sorter` (Go's sort is specified, not modelled), any fuel (= recursion depth), any path, any regenerated table.
-/
import Kust.Lemmas.Fmt
import Kust.Gen.Lists
namespace Kust.C20
open Kust Node Fmt

variable (S : Sorter) (c : Cfg)

/-- formatting never changes a node's own scalar text (only the order of children) -/
theorem fmtN_valueText (f : Nat) (p : String) (n : Node) : (fmtN S c f p n).valueText = n.valueText := by
  fun_cases fmtN S c f p n <;> rfl

/-- the entries of a formatted mapping are a permutation of the formatted entries of the
    input: no key is lost, added or duplicated, and every value is the formatted value of the same key. -/
theorem fmt_map_perm (f : Nat) (p : String) (s : Nat) (fs : Fields) :
    ∃ L, fmtN S c (f + 1) p (.map s fs) = .map s L ∧
      L.Perm (fs.map fun kv => (kv.1, fmtN S c f (p ++ "." ++ kv.1) kv.2)) :=
  ⟨_, rfl, (S.perm _ fs).map _⟩

/-- elements are only permuted (and only for whitelisted lists), each formatted. -/
theorem fmt_seq_perm (f : Nat) (p : String) (s : Nat) (is : List Node) :
    ∃ L, fmtN S c (f + 1) p (.seq s is) = .seq s L ∧ L.Perm (is.map (fmtN S c f p)) := by
  refine ⟨_, rfl, ?_⟩
  split
  · exact (S.perm _ is).map _
  · exact List.Perm.refl _

/-- a list that is not whitelisted keeps its element order -/
theorem fmt_seq_order_kept (f : Nat) (p : String) (s : Nat) (is : List Node) (h : wlLookup c p = none) :
    fmtN S c (f + 1) p (.seq s is) = .seq s (is.map (fmtN S c f p)) := by
  simp [fmtN, h]

/-! ### idempotence -/

/-- mappings have distinct keys, down to depth `fuel` ("mapping documents") -/
def NoDupN : Nat → Node → Prop
  | 0, _ => True
  | _ + 1, .scalar .. => True
  | f + 1, .map _ fs => (fs.map Prod.fst).Nodup ∧ ∀ kv ∈ fs, NoDupN f kv.2
  | f + 1, .seq _ is => ∀ x ∈ is, NoDupN f x

/-- rewriting the values of the fields without touching their own text does not change the text read for `name` -/
theorem lastFieldText_map (name : String) (g : String → Node → Node) (hv : ∀ k v, (g k v).valueText = v.valueText)
    (l : Fields) : lastFieldText name (l.map fun kv => (kv.1, g kv.1 kv.2)) = lastFieldText name l := by
  induction l with
  | nil => rfl
  | cons a l ih => simp only [List.map_cons, lastFieldText, ih, List.any_map, Function.comp_def, hv]

theorem lastFieldText_absent (name : String) (l : Fields) (h : ∀ kv ∈ l, kv.1 ≠ name) :
    lastFieldText name l = "" := by
  fun_induction lastFieldText name l with
  | case1 => rfl
  | case2 k v fs hk => exact absurd hk.1 (h (k, v) (by simp))
  | case3 k v fs _ hk ih => exact ih fun kv hkv => h kv (by simp [hkv])

/-- with distinct keys, the text read for `name` is that of THE field called `name` -/
theorem lastFieldText_of_mem (name : String) (v : Node) (l : Fields) (hn : (l.map Prod.fst).Nodup)
    (hm : (name, v) ∈ l) : lastFieldText name l = v.valueText := by
  induction l with
  | nil => cases hm
  | cons a l ih =>
    obtain ⟨hk, hn⟩ := List.nodup_cons.mp hn
    rcases List.mem_cons.mp hm with rfl | hm
    · -- the head is the member, and by `hk` no later field has its name
      refine if_pos ⟨rfl, fun ha => ?_⟩
      obtain ⟨kv, hkv, e⟩ := List.any_eq_true.mp ha
      exact hk (List.mem_map.mpr ⟨kv, hkv, of_decide_eq_true e⟩)
    · -- the member comes later, so the head is passed over
      exact (if_neg fun h => h.2 (List.any_eq_true.mpr ⟨_, hm, decide_eq_true rfl⟩)).trans (ih hn hm)

/-- … so it does not depend on the order of the fields -/
theorem lastFieldText_perm (name : String) {l l' : Fields} (hp : l.Perm l') (hn : (l.map Prod.fst).Nodup) :
    lastFieldText name l' = lastFieldText name l := by
  by_cases h : ∃ v, (name, v) ∈ l
  · obtain ⟨v, hv⟩ := h
    rw [lastFieldText_of_mem name v l hn hv,
      lastFieldText_of_mem name v l' ((hp.map Prod.fst).nodup_iff.mp hn) (hp.subset hv)]
  · have : ∀ kv ∈ l, kv.1 ≠ name := fun kv hkv e => h ⟨kv.2, e ▸ hkv⟩
    rw [lastFieldText_absent name l this, lastFieldText_absent name l' fun kv hkv => this kv (hp.symm.subset hkv)]

/-- the sort key of a sequence element survives formatting (needs distinct keys in the element) -/
theorem seqKey_fmtN (sf : String) (f : Nat) (p : String) (x : Node) (h : NoDupN f x) :
    seqKey sf (fmtN S c f p x) = seqKey sf x := by
  unfold seqKey
  split
  next => exact fmtN_valueText S c f p x
  next =>
    fun_cases fmtN S c f p x with
    | case3 f p s fs =>
      -- a mapping: the fields are permuted, their own texts kept
      exact (lastFieldText_map sf _ (fun k v => fmtN_valueText S c f (p ++ "." ++ k) v) _).trans
        (lastFieldText_perm sf (S.perm _ fs).symm h.1)
    | _ => rfl

/-- sorting, then rewriting the elements by an idempotent `g` that the comparator does not see: the list is still ordered,
    so a second sort leaves it alone, and so does a second rewriting -/
theorem sort_map_idem {α : Type} (le : α → α → Bool) (g : α → α) (l : List α)
    (tr : ∀ a b c, le a b = true → le b c = true → le a c = true) (to : ∀ a b, (le a b || le b a) = true)
    (hc : ∀ a ∈ l, ∀ b ∈ l, le (g a) (g b) = le a b) (hg : ∀ a ∈ l, g (g a) = g a) :
    (S.sort le ((S.sort le l).map g)).map g = (S.sort le l).map g := by
  have hmem : ∀ a ∈ S.sort le l, a ∈ l := fun _ ha => (S.perm le l).subset ha
  rw [S.fix le ((S.sort le l).map g), List.map_map]
  · exact List.map_congr_left fun a ha => hg a (hmem a ha)
  · exact List.pairwise_map.mpr <| (S.sorted le l tr to).imp_of_mem fun ha hb hab =>
      (hc _ (hmem _ ha) _ (hmem _ hb)).trans hab

/-- formatting an already formatted document changes nothing — for every document whose mappings have distinct keys
    (`NoDupN`), every sorting function meeting the specification, every depth, every path, every (regenerated) table. -/
theorem fmt_idempotent : ∀ (f : Nat) (p : String) (n : Node), NoDupN f n →
    fmtN S c f p (fmtN S c f p n) = fmtN S c f p n := by
  intro f
  induction f with
  | zero => intro p n _; rfl
  | succ f ih =>
    intro p n hn
    cases n with
    | scalar t v s => rfl
    | map s fs =>
      refine congrArg (Node.map s) (sort_map_idem S _ _ fs (leField_trans _) (leField_total _) ?_ ?_)
      · exact fun _ _ _ _ => rfl                 -- the comparator sees keys only
      · exact fun kv hkv => congrArg (Prod.mk kv.1) (ih _ _ (hn.2 kv hkv))
    | seq s is =>
      simp only [fmtN]
      cases hw : wlLookup c p with
      | none => exact congrArg (Node.seq s) ((List.map_map ..).trans (List.map_congr_left fun x hx => ih p x (hn x hx)))
      | some sf =>
        refine congrArg (Node.seq s) (sort_map_idem S _ _ is (leSeq_trans sf) (leSeq_total sf) ?_ fun x hx => ih p x (hn x hx))
        -- the comparator sees sort keys only, and formatting keeps them
        intro a ha b hb
        rw [leSeq, seqKey_fmtN S c sf f p a (hn a ha), seqKey_fmtN S c sf f p b (hn b hb)]; rfl

/-- Lean core's merge sort is an admissible sorter, so the theorem is not vacuous … -/
example : Sorter := mergeSorter

/-- … and neither is the hypothesis: a concrete two-level document has distinct keys -/
example : NoDupN 3 (.map 0 [("spec", .map 0 [("b", .scalar "!!str" "x" 0), ("a", .scalar "!!int" "1" 0)]),
                            ("kind", .scalar "!!str" "ConfigMap" 0)]) := by
  simp [NoDupN]

/-- T-gen: the table still orders the identifying fields first (reviewed expectation) -/
theorem field_order_expected :
    Fmt.lessKey Gen.fieldSortOrder "apiVersion" "kind" = true ∧ Fmt.lessKey Gen.fieldSortOrder "kind" "metadata" = true ∧
    Fmt.lessKey Gen.fieldSortOrder "metadata" "spec" = true ∧ Fmt.lessKey Gen.fieldSortOrder "name" "namespace" = true ∧
    Fmt.lessKey Gen.fieldSortOrder "spec" "zzz-unknown" = true ∧ Fmt.lessKey Gen.fieldSortOrder "aaa-unknown" "bbb-unknown" = true := by
  decide +kernel

theorem whitelist_expected :
    Gen.whitelistFields = [(".spec.template.spec.containers", "name"), (".webhooks.rules.operations", "")] := rfl

end Kust.C20
