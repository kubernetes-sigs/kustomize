/-
  C03 (second part) — which referent a name reference follows.
  * `unique_candidate_followed`: when exactly one resource has borne the written name (and is of the rule's kind,
    passes the roleRef kind check and shares the referrer's namespace), the reference is rewritten to THAT resource's
    current name — whatever prefixes and suffixes referrer and referent have accumulated (sibling layers with their own
    prefixes included).  This is the clause the seeded change C03-selectReferral-single-candidate broke.
  * `picked_is_a_candidate`, `picked_bore_the_name`: whatever is picked passed the sieves: among its previous ids one
    bore the written name and one has the rule's kind (not necessarily the same one).
  * `no_candidate_untouched`: without a candidate the field keeps its value.
-/
import Kust.Nameref
import Kust.Lemmas.Basic
namespace Kust.C03
open Kust Res Nameref

theorem unique_candidate_followed (cs : Gvk → Bool) (ref : C) (target : Gvk) (roleRef : Option Gvk) (oldName : String)
    (cands : List C) (x : C) (h : cands.filter (base cs ref target roleRef oldName) = [x]) :
    newName cs ref target roleRef oldName cands = .ok x.cur.name := by
  simp [newName, selectReferral, h]

theorem no_candidate_untouched (cs : Gvk → Bool) (ref : C) (target : Gvk) (roleRef : Option Gvk) (oldName : String)
    (cands : List C) (h : cands.filter (base cs ref target roleRef oldName) = []) :
    newName cs ref target roleRef oldName cands = .ok oldName := by
  simp [newName, selectReferral, h]

/-- whatever is picked is one of the candidates that pass the four sieves: the later sieves only filter further, and
    the pick is the head of what is left -/
theorem picked_is_a_candidate (cs : Gvk → Bool) (ref : C) (target : Gvk) (roleRef : Option Gvk) (oldName : String)
    (cands : List C) (x : C) (h : selectReferral cs ref target roleRef oldName cands = .one x) :
    x ∈ cands ∧ base cs ref target roleRef oldName x = true := by
  rw [← List.mem_filter]
  revert h
  fun_cases selectReferral cs ref target roleRef oldName cands with
  | case1 c1 y hy =>  -- a single candidate
    intro h; cases h; exact (hy ▸ List.mem_singleton_self _ : _ ∈ c1)
  | case2 | case5 => nofun  -- nothing, or too many
  | case3 c1 c2 c3 y hy | case4 c1 c2 c3 y rest _ hy =>  -- the head of the sieved list `c3`
    intro h; cases h
    have h3 : c3 ⊆ c2 := of_ite (C := (· ⊆ c2)) (fun _ => List.filter_sublist.subset) (fun _ => List.Subset.refl _)
    exact List.filter_sublist.subset (h3 (hy ▸ List.mem_cons_self ..))

theorem picked_bore_the_name (cs : Gvk → Bool) (ref : C) (target : Gvk) (roleRef : Option Gvk) (oldName : String)
    (cands : List C) (x : C) (h : selectReferral cs ref target roleRef oldName cands = .one x) :
    (∃ id ∈ x.prev, id.name = oldName) ∧ (∃ id ∈ x.prev, gvkSelected id.gvk target = true) := by
  have hb := (picked_is_a_candidate cs ref target roleRef oldName cands x h).2
  unfold base at hb
  simp only [Bool.and_eq_true, List.any_eq_true, decide_eq_true_eq] at hb
  exact ⟨hb.1.1.1, hb.1.1.2⟩

/-- sibling layers: referrer under prefix `app-`, referent under prefix `cfg-` — the only resource that was ever
    called `settings` is followed although the prefix lists differ (kernel-evaluated; the seeded change returned the
    stale name here) -/
example :
    let cm : C := { cur := ⟨⟨"", "v1", "ConfigMap"⟩, "cfg-settings", ""⟩, prev := [⟨⟨"", "v1", "ConfigMap"⟩, "settings", "default"⟩],
                    prefixes := ["cfg-"] }
    let dep : C := { cur := ⟨⟨"apps", "v1", "Deployment"⟩, "app-web", ""⟩, prefixes := ["app-"] }
    newName (fun _ => false) dep ⟨"", "v1", "ConfigMap"⟩ none "settings" [cm, dep] = .ok "cfg-settings" := by decide +kernel

end Kust.C03
