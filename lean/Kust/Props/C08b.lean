/-
  C08 (labels entries) — "Labels declared without includeSelectors never alter a selector, and labels/annotations are
  written at exactly the metadata and template locations defined for each kind" — for `labels` entries that bring field
  specs of their own (`fields`).  Theorems about `Kust.Labels.entrySpecs` / `applyEntries`, the model of the
  LabelTransformer configurator, tied by the correspondence `labels.entries` (whole builds).
-/
import Kust.Labels
import Kust.Gen.FieldSpecs
namespace Kust.C08
open Kust Gen GenMap Labels

/-- a plain entry (no own fields, no flags) is applied with the metadata spec and nothing else — whatever tables are
    configured -/
theorem plain_entry_specs (common tmpl : List FieldSpec) (L : Dict) :
    entrySpecs common tmpl ⟨L, false, false, []⟩ = .ok [metaLabels] := by
  simp [entrySpecs, mergeOne]

/-- the metadata spec touches `metadata/labels` only -/
theorem meta_spec_frame (g v k : String) (L : Dict) (loc : Loc) (h : loc.1 ≠ "metadata/labels") :
    applyAt [metaLabels] g v k L loc = loc := by
  simp [applyAt, metaLabels, Ne.symm h]

/-- **an entry's own fields stay its own**: after ANY entry — whatever field specs it brought, e.g. a Service selector —
    a plain entry changes `metadata/labels` and no other location: selectors and templates are exactly what the first
    entry left (the second clause is `meta_spec_frame`: it holds of every location) -/
theorem own_fields_stay_own (common tmpl : List FieldSpec) (g v k : String) (e1 : Entry) (L2 : Dict) (locs out : List Loc)
    (s1 : List FieldSpec) (h1 : entrySpecs common tmpl e1 = .ok s1)
    (h : applyEntries common tmpl g v k [e1, ⟨L2, false, false, []⟩] locs = .ok out) :
    out = (applyLabels s1 g v k e1.pairs locs).map (applyAt [metaLabels] g v k L2) ∧
    ∀ loc ∈ applyLabels s1 g v k e1.pairs locs, loc.1 ≠ "metadata/labels" → applyAt [metaLabels] g v k L2 loc = loc := by
  simp only [applyEntries, h1, plain_entry_specs, Out.ok.injEq] at h
  exact ⟨h.symm, fun loc _ => meta_spec_frame g v k L2 loc⟩

theorem mergeOne_prefix {s : List FieldSpec} {x : FieldSpec} {r : List FieldSpec} : mergeOne s x = .ok r → s <+: r := by
  fun_cases mergeOne s x <;> intro h <;> cases h
  · exact List.prefix_refl _
  · exact List.prefix_append _ _

/-- the entry's own specs come first in the merged list -/
theorem own_fields_first : ∀ (extra s r : List FieldSpec), mergeAll s extra = .ok r → s <+: r := by
  intro extra s r h
  fun_induction mergeAll s extra with
  | case1 => cases h; exact List.prefix_refl _
  | case2 s x xs s' hm ih => exact (mergeOne_prefix hm).trans (ih h)
  | case3 | case4 => cases h

theorem applyAt_path (specs : List FieldSpec) (g v k : String) (L : Dict) (loc : Loc) :
    (applyAt specs g v k L loc).1 = loc.1 := by
  fun_cases applyAt specs g v k L loc <;> rfl

/-- locations keep their number and their paths under any list of entries -/
theorem entries_keep_locations (common tmpl : List FieldSpec) (g v k : String) : ∀ (es : List Entry) (locs out : List Loc),
    applyEntries common tmpl g v k es locs = .ok out → out.map (·.1) = locs.map (·.1) := by
  intro es locs out h
  fun_induction applyEntries common tmpl g v k es locs with
  | case1 => cases h; rfl
  | case2 e es locs specs hs ih => simp [ih h, applyLabels, applyAt_path]
  | case3 | case4 => cases h

/-- the clause is real: a first entry that brings a Service-selector spec of its own (with includeTemplates) reaches the
    selector; the plain entry after it reaches metadata only -/
example :
    applyEntries commonLabelsSpecs templateLabelsSpecs "" "v1" "Service"
      [⟨[("viafields", "q")], false, true, [⟨"", "v1", "Service", "spec/selector", true⟩]⟩, ⟨[("team", "blue")], false, false, []⟩]
      [("metadata/labels", none), ("spec/selector", some [("app", "x")])]
    = .ok [("metadata/labels", some [("viafields", "q"), ("team", "blue")]), ("spec/selector", some [("app", "x"), ("viafields", "q")])] := by
  decide +kernel

/-- finding C08-K1, as the model (and the code) has it: an entry whose own field spec names `metadata/labels` for one
    kind is applied with that spec ALONE — the built-in `metadata/labels` spec counts as already present, because the
    test asks whether the existing spec is selected by the incoming one's (empty, hence wild-card) GVK — so a resource of
    any other kind gets no metadata label from the entry -/
theorem Witness.own_metadata_spec_shadows :
    entrySpecs commonLabelsSpecs templateLabelsSpecs ⟨[("shadow", "s")], false, false, [⟨"", "", "NoSuchKind", "metadata/labels", true⟩]⟩
      = .ok [⟨"", "", "NoSuchKind", "metadata/labels", true⟩] ∧
    applyEntries commonLabelsSpecs templateLabelsSpecs "apps" "v1" "Deployment"
      [⟨[("shadow", "s")], false, false, [⟨"", "", "NoSuchKind", "metadata/labels", true⟩]⟩] [("metadata/labels", some [("app", "x")])]
      = .ok [("metadata/labels", some [("app", "x")])] := by
  decide +kernel

end Kust.C08
