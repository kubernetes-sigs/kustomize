/-
  C06 (source clause) — a generator's data is a DICTIONARY: keys from env files, literals and files are loaded in that
  order, validated, and a key that occurs twice — within one kind of source or across kinds — fails the build.
  Theorems about `Kust.Kv` (kv.loader.Load + makeValidatedDataMap), tied by the correspondence `gen.sources`.
-/
import Kust.Kv
namespace Kust.C06
open Kust Kust.Kv

/-- what `validate` accepts: the pairs come back unchanged, every key is valid, fresh with respect to `seen`, and the
    keys are pairwise distinct -/
theorem validate_spec (keyOk : String → Bool) (ps : List Pair) (seen : List String) (m : List Pair) :
    validate keyOk seen ps = .ok m →
      m = ps ∧ (∀ p ∈ ps, keyOk p.1 = true) ∧ (∀ p ∈ ps, p.1 ∉ seen) ∧ (ps.map (·.1)).Nodup := by
  fun_induction validate keyOk seen ps generalizing m with
  | case1 => intro h; cases h; simp
  -- an invalid key, a repeated key, a failure further on
  | case2 | case3 | case5 | case6 => intro h; cases h
  | case4 seen k v ps hk hs qs hq ih =>        -- `k` is valid and not in `seen`, the rest is accepted as `qs`
    intro h; cases h
    obtain ⟨rfl, hv, hf, hn⟩ := ih qs hq
    simp only [Bool.not_eq_true, List.contains_eq_mem, decide_eq_false_iff_not] at hk hs
    refine ⟨rfl, ?_, ?_, ?_⟩
    · exact List.forall_mem_cons.mpr ⟨by simpa using hk, hv⟩
    · exact List.forall_mem_cons.mpr ⟨hs, fun p hp hm => hf p hp (List.mem_cons_of_mem _ hm)⟩
    · exact List.nodup_cons.mpr ⟨fun hm => by
        obtain ⟨p, hp, e⟩ := List.mem_map.mp hm
        exact hf p hp (e ▸ List.mem_cons_self), hn⟩

/-- **a generator's data is a dictionary**: when `makeValidatedDataMap` succeeds, the pairs it accepted have pairwise
    distinct, valid keys — whatever mix of env files, literals and file sources they came from — and are the loaded pairs
    themselves, in loading order -/
theorem validated_is_dictionary (envOk keyOk : String → Bool) (content : String → Option String)
    (envs : List (Option String)) (lits files : List String) (m : List Pair)
    (h : validated envOk keyOk content envs lits files = .ok m) :
    (m.map (·.1)).Nodup ∧ (∀ p ∈ m, keyOk p.1 = true) ∧ load envOk content envs lits files = .ok m := by
  revert h
  fun_cases validated envOk keyOk content envs lits files
  case case1 ps hl =>
    intro h
    obtain ⟨rfl, hv, _, hn⟩ := validate_spec keyOk ps [] m h
    exact ⟨hn, hv, hl⟩
  all_goals intro h; cases h                   -- nothing was loaded

/-- the order of loading is env files, literals, files -/
theorem load_order (envOk : String → Bool) (content : String → Option String)
    (envs : List (Option String)) (lits files : List String) (a b c : List Pair)
    (ha : envFiles envOk envs = .ok a) (hb : literals lits = .ok b) (hc : fileSources content files = .ok c) :
    load envOk content envs lits files = .ok (a ++ b ++ c) := by simp [load, ha, hb, hc]

/-- **a key repeated across kinds of source is rejected.** If the same key comes out of two different kinds of source
    (an env file and a literal, a literal and a file, …) the generator fails — it never lets one of them win. -/
theorem key_repeated_across_sources_rejected (envOk keyOk : String → Bool) (content : String → Option String)
    (envs : List (Option String)) (lits files : List String) (a b c : List Pair)
    (ha : envFiles envOk envs = .ok a) (hb : literals lits = .ok b) (hc : fileSources content files = .ok c)
    (k : String)
    (hk : (k ∈ a.map (·.1) ∧ k ∈ b.map (·.1)) ∨ (k ∈ a.map (·.1) ∧ k ∈ c.map (·.1)) ∨ (k ∈ b.map (·.1) ∧ k ∈ c.map (·.1))) :
    ∀ m, validated envOk keyOk content envs lits files ≠ .ok m := by
  intro m hm
  -- `m` would be the loaded list `a ++ b ++ c`, with distinct keys
  obtain ⟨hn, _, hl⟩ := validated_is_dictionary envOk keyOk content envs lits files m hm
  obtain rfl := Out.ok.inj ((load_order envOk content envs lits files a b c ha hb hc).symm.trans hl)
  -- distinct keys of `a ++ b ++ c`: no key of `a` is one of `b` (`hab`), none of `a ++ b` one of `c` (`habc`)
  simp only [List.map_append, List.nodup_append] at hn
  obtain ⟨⟨_, _, hab⟩, _, habc⟩ := hn
  rcases hk with ⟨h1, h2⟩ | ⟨h1, h2⟩ | ⟨h1, h2⟩
  · exact hab k h1 k h2 rfl
  · exact habc k (List.mem_append_left _ h1) k h2 rfl
  · exact habc k (List.mem_append_right _ h1) k h2 rfl

/-- premises are satisfiable: LOG_LEVEL from an env file and from a literal is refused, distinct keys are kept in order -/
example :
    validated (fun _ => true) (fun _ => true) (fun p => if p = "pw.txt" then some "secret" else none)
      [some "# comment\nLOG_LEVEL=info\n\nMODE = x\n"] ["LOG_LEVEL=debug"] [] = .err "dupkey" ∧
    validated (fun _ => true) (fun _ => true) (fun p => if p = "pw.txt" then some "secret" else none)
      [some "LOG_LEVEL=info\r\nEMPTY\n"] ["colour=\"blue\""] ["password=pw.txt", "pw.txt"]
        = .ok [("LOG_LEVEL", "info"), ("EMPTY", ""), ("colour", "blue"), ("password", "secret"), ("pw.txt", "secret")] := by
  decide +kernel

end Kust.C06
