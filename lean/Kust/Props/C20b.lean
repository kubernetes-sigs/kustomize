/-
  C20 (schema clause) — "with schema use enabled, scalar types follow the schema and never change the parsed value of
  strings".  Theorems about `Kust.FmtSchema.format`, the model of `yaml.FormatNonStringStyle`, tied to the Go function
  by the correspondence component `fmt.nonstring`; `ns` (IsValueNonString, go-yaml v2) is a parameter.
-/
import Kust.FmtSchema
namespace Kust.C20
open Kust Kust.FmtSchema

variable (ns : String → Bool)

theorem finish_value (t : String) (m : Scalar) : (finish t m).value = m.value := by
  fun_cases finish t m <;> rfl

theorem finish_style (t : String) (m : Scalar) (hn : m.tag ≠ "!!null") : (finish t m).style = m.style := by
  unfold finish; rw [if_neg hn]; split <;> rfl

theorem quoted_dq : quoted dqBit = true := by decide +kernel
theorem quoted_zero : quoted 0 = false := by decide +kernel

/-- the text of a scalar is never touched -/
theorem schema_value_kept (types : List String) (fmt : String) (n : Scalar) :
    (format ns types fmt n).value = n.value := by
  -- every branch returns `n`, or `finish` of `n` with another style
  fun_cases format ns types fmt n <;> simp only [finish_value] <;> split <;> rfl

/-- **int-or-string fields are left exactly as they are** (a quoted `"8080"` stays the string it is) -/
theorem int_or_string_untouched (n : Scalar) : format ns ["string"] "int-or-string" n = n := by
  simp [format]

/-- a field whose schema type the step does not know is left as it is -/
theorem unknown_type_untouched (t fmt : String) (n : Scalar)
    (h : t ≠ "string" ∧ t ≠ "boolean" ∧ t ≠ "integer" ∧ t ≠ "number") : format ns [t] fmt n = n := by
  simp [format, h.1, h.2.1, h.2.2.1, h.2.2.2]

/-- text that is not a YAML 1.1 non-string is never touched, whatever the schema says -/
theorem plain_text_untouched (types : List String) (fmt : String) (n : Scalar) (h : ns n.value = false) :
    format ns types fmt n = n := by
  unfold format
  split
  · simp [h]
  · rfl

/-- unless the scalar is a null, the tail of the step changes neither its quoting nor its text -/
theorem readsAsString_finish (t : String) (m : Scalar) (hn : m.tag ≠ "!!null") :
    readsAsString ns (finish t m) = readsAsString ns m := by
  rw [readsAsString, finish_style t m hn, finish_value]; rfl

/-- **strings stay strings.** Under a `string` schema a scalar that a YAML 1.1 reader takes for a string is still
    one afterwards — and one that it would have mis-typed (unquoted `on`, `123`) becomes one. -/
theorem string_schema_reads_as_string (fmt : String) (n : Scalar) (hf : fmt ≠ "int-or-string") (hn : n.tag ≠ "!!null") :
    readsAsString ns (format ns ["string"] fmt n) = true := by
  by_cases h : ns n.value
  · -- text that would be mis-typed: quoted now, if it was not before
    have hfmt : format ns ["string"] fmt n = finish "string" (if quoted n.style then n else { n with style := dqBit }) := by
      simp [format, h, hf]
    have htag : (if quoted n.style then n else { n with style := dqBit }).tag ≠ "!!null" := by split <;> exact hn
    rw [hfmt, readsAsString_finish ns _ _ htag]
    split
    · simp [readsAsString, *]              -- it was quoted
    · simp [readsAsString, quoted_dq]      -- it is now
  · simp [format, readsAsString, h]

/-- a scalar that reads as a string keeps reading as a string unless the schema types the field boolean / integer /
    number — the only case in which the step removes quotes -/
theorem string_kept_unless_typed (t fmt : String) (n : Scalar) (hs : readsAsString ns n = true)
    (ht : t ≠ "boolean" ∧ t ≠ "integer" ∧ t ≠ "number") (hn : n.tag ≠ "!!null") :
    readsAsString ns (format ns [t] fmt n) = true := by
  by_cases hns : ns n.value
  · have hq : quoted n.style = true := by simpa [readsAsString, hns] using hs
    -- quoted already: under a string schema only the tag is set, under any other type nothing happens
    simp only [format, hns, hq, ht, Bool.not_true, Bool.false_eq_true, if_false, if_true, or_self]
    split
    · rwa [readsAsString_finish ns _ _ hn]
    · exact hs
  · rwa [plain_text_untouched ns [t] fmt n (by simpa using hns)]

theorem typeTag_ne_null (t : String) : typeTag t ≠ some "!!null" := by
  fun_cases typeTag t <;> simp

/-- the tail of the step is idempotent: a null stays a null, any other scalar gets a tag that is not `!!null` -/
theorem finish_idem (t : String) (m : Scalar) : finish t (finish t m) = finish t m := by
  have := typeTag_ne_null t
  fun_cases finish t m <;> simp_all [finish]

theorem finish_unquoted (t : String) (m : Scalar) (h : quoted m.style = false) : quoted (finish t m).style = false := by
  fun_cases finish t m
  · exact quoted_zero                          -- a null: the style is reset
  · exact h
  · exact h

/-- **idempotent**: formatting the result again changes nothing -/
theorem schema_idempotent (types : List String) (fmt : String) (n : Scalar) :
    format ns types fmt (format ns types fmt n) = format ns types fmt n := by
  fun_cases format ns types fmt n
  case case2 t h ht =>
    -- `string`, quoted unless it was: the second pass finds it quoted (or null, and strips the quotes again)
    obtain ⟨rfl, hf⟩ := ht
    by_cases hq : quoted n.style <;> by_cases hn : n.tag = "!!null" <;>
      simp [format, finish, h, hf, hq, hn, typeTag, quoted_dq, quoted_zero]
  case case3 t h h1 ht =>
    -- `boolean`, `integer`, `number`, unquoted unless it was: the second pass finds it unquoted and repeats only the tail
    by_cases hq : quoted n.style <;>
      simp [format, finish_value, h, h1, ht, hq, finish_unquoted, quoted_zero, finish_idem]
  case case5 h =>                              -- not exactly one schema type: left as it is, twice
    unfold format
    split
    · exact (h _ rfl).elim
    · rfl
  -- text that is no non-string, or a type the step does not know: left as it is, twice
  all_goals simp [format, *]

/-- the premises are satisfiable: a quoted port number under an int-or-string and under an integer schema -/
example : format (fun v => v = "8080") ["string"] "int-or-string" ⟨"!!str", "8080", 2⟩ = ⟨"!!str", "8080", 2⟩ ∧
          format (fun v => v = "8080") ["integer"] "" ⟨"!!str", "8080", 2⟩ = ⟨"!!int", "8080", 0⟩ ∧
          format (fun v => v = "8080") ["string"] "" ⟨"!!int", "8080", 0⟩ = ⟨"!!str", "8080", 2⟩ := by decide +kernel

end Kust.C20
