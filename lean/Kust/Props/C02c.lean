/-
  C02 (identity clause) — a strategic-merge patch "differs from its input only at fields that some directive … targets":
  kind, name and namespace of the target are targeted only through the entry's options.  Theorems about
  `Kust.SmPatchId.apply`, the model of Resource.ApplySmPatch, tied by the correspondence `res.smpatch`.
-/
import Kust.SmPatchId
import Kust.Lemmas.Res
import Kust.Fns
namespace Kust.C02
open Kust Res SmPatchId

/-- **without options the identity is untouched**, whatever the patch body says — bookkeeping included -/
theorem no_options_identity_kept (cs : Gvk → Bool) (r : R) (m : String × String × String) :
    apply cs ⟨false, false⟩ r (some m) = some r := by
  obtain ⟨mk, mn, mns⟩ := m
  simp [apply]

/-- **each option frees its own field only**: the kind follows the patch exactly when `allowKindChange` is set, the name
    exactly when `allowNameChange` is set — neither option says anything about the other field -/
theorem options_are_independent (cs : Gvk → Bool) (o : Opts) (r r' : R) (mk mn mns : String)
    (h : apply cs o r (some (mk, mn, mns)) = some r') :
    r'.gvk.kind = (if o.allowKind then mk else r.gvk.kind) ∧ r'.name = (if o.allowName then mn else r.name) ∧
    r'.gvk.group = r.gvk.group ∧ r'.gvk.version = r.gvk.version := by
  cases h
  by_cases h1 : (o.allowName || o.allowKind) = true <;> simp [h1, R.storePrev]

/-- **the namespace is never the patch's** -/
theorem namespace_kept (cs : Gvk → Bool) (o : Opts) (r r' : R) (m : String × String × String)
    (h : apply cs o r (some m) = some r') : r'.ns = r.ns := by
  obtain ⟨mk, mn, mns⟩ := m
  cases h; rfl

/-- the previous name is recorded (`pNames`; the statement does not mention the other two lists) exactly when an option is
    set, so that references can follow the change … -/
theorem previous_id_recorded (cs : Gvk → Bool) (o : Opts) (r r' : R) (m : String × String × String)
    (h : apply cs o r (some m) = some r') :
    r'.pNames = (if o.allowName || o.allowKind then appendCsv r.pNames r.name else r.pNames) := by
  obtain ⟨mk, mn, mns⟩ := m
  cases h
  by_cases h1 : (o.allowName || o.allowKind) = true <;> simp [h1, R.storePrev]

/-- … and recording keeps the three bookkeeping lists aligned -/
theorem smpatch_keeps_alignment (cs : Gvk → Bool) (o : Opts) (r r' : R) (m : String × String × String) (hg : r.Good)
    (h : apply cs o r (some m) = some r') : r'.Aligned := by
  obtain ⟨mk, mn, mns⟩ := m
  cases h
  -- alignment speaks of the three bookkeeping lists only; what the patch may change lies in other fields
  exact of_ite (C := R.Aligned) (fun _ => storePrev_aligned cs r hg.1 hg.2) fun _ => hg.1

/-- the clause is not vacuous: with only `allowNameChange`, a patch that says `kind: Deployment, name: other` renames a
    StatefulSet and leaves its kind alone -/
example : (apply (fun _ => false) ⟨true, false⟩ { gvk := ⟨"apps", "v1", "StatefulSet"⟩, name := "web", ns := "" }
    (some ("Deployment", "other", "elsewhere"))).map (fun r => (r.gvk.kind, r.name, r.ns, r.pNames)) =
    some ("StatefulSet", "other", "", ["web"]) := by decide +kernel

/-- finding C02-K1 on the setter model: putting the name `123` back over a PLAIN scalar (what a patch that replaced the
    metadata left there) yields a plain `123` — the double quotes the setter had just given the number-like string are
    overwritten by the destination's style — although `123` reads as a number -/
theorem Witness.restored_numeric_name_unquoted :
    Fns.fieldSetter (fun v => v = "123") "name" (some (.scalar "" "123" 0)) false false
      (.map 0 [("name", .scalar "!!str" "whatever" 0)])
    = .ok (.map 0 [("name", .scalar "" "123" 0)], some (.scalar "" "123" 0)) ∧
    Fns.quoteIfNonString (fun v => v = "123") false (.scalar "" "123" 0) = .scalar "" "123" Fns.dq := by
  decide +kernel

end Kust.C02
