/-
  C10 (selector clause) — "A patch with a target selector is applied to precisely the resources whose group, version,
  kind, name and namespace fully match the selector's patterns and whose labels/annotations satisfy its selectors".
  Theorems about `Kust.Select.select`, the model of resWrangler.Select + SelectorRegex, tied by the correspondence
  `resmap.select`.  `hit` (Go's regexp on the anchored pattern), `bad` (patterns that do not compile) and `cs`
  (cluster scope) are parameters wherever they occur.
-/
import Kust.Select
namespace Kust.C10
open Kust Res Select

theorem loop_filter (cs : Gvk → Bool) (hit : String → String → Bool) (s : Sel) (lq aq : List Req)
    (hl : s.lsel = some lq) (ha : s.asel = some aq) :
    ∀ rs : List SRes, loop cs hit s rs = .ok (rs.filter (designated cs hit s lq aq)) := by
  intro rs
  induction rs with
  | nil => rfl
  | cons x xs ih =>
    simp only [loop, hl, ha, ih, List.filter, designated]
    -- a sieve that fails drops `x`
    cases idSelected cs hit s x.c
    · rfl
    cases lq.all (reqMatches x.labels)
    · rfl
    cases aq.all (reqMatches x.annos) <;> rfl

/-- **a selector designates precisely the matching resources, in their order**: with patterns that compile and
    selectors that parse, `Select` returns exactly the resources that pass all sieves — namespace, name, group,
    version, kind, label requirements, annotation requirements — and keeps the order of the resource map -/
theorem select_designates (cs : Gvk → Bool) (hit : String → String → Bool) (bad : String → Bool) (s : Sel) (lq aq : List Req)
    (hl : s.lsel = some lq) (ha : s.asel = some aq)
    (hb : ∀ p ∈ [s.group, s.version, s.kind, s.name, s.ns], p ≠ "" → bad p = false) (rs : List SRes) :
    select cs hit bad s rs = .ok (rs.filter (designated cs hit s lq aq)) := by
  unfold select
  rw [if_neg, loop_filter cs hit s lq aq hl ha rs]
  rw [Bool.not_eq_true, List.any_eq_false]
  intro p hp
  by_cases he : p = "" <;> simp [he, hb p hp]

theorem select_mem (cs : Gvk → Bool) (hit : String → String → Bool) (bad : String → Bool) (s : Sel) (lq aq : List Req)
    (hl : s.lsel = some lq) (ha : s.asel = some aq)
    (hb : ∀ p ∈ [s.group, s.version, s.kind, s.name, s.ns], p ≠ "" → bad p = false) (rs out : List SRes)
    (h : select cs hit bad s rs = .ok out) (x : SRes) :
    x ∈ out ↔ x ∈ rs ∧ designated cs hit s lq aq x = true := by
  cases (select_designates cs hit bad s lq aq hl ha hb rs).symm.trans h
  exact List.mem_filter

theorem select_sublist (cs : Gvk → Bool) (hit : String → String → Bool) (bad : String → Bool) (s : Sel) (lq aq : List Req)
    (hl : s.lsel = some lq) (ha : s.asel = some aq)
    (hb : ∀ p ∈ [s.group, s.version, s.kind, s.name, s.ns], p ≠ "" → bad p = false) (rs out : List SRes)
    (h : select cs hit bad s rs = .ok out) : out.Sublist rs := by
  cases (select_designates cs hit bad s lq aq hl ha hb rs).symm.trans h
  exact List.filter_sublist

/-- **name and namespace are matched independently, each against the original OR the current value**: a resource that
    a lower layer renamed and moved is designated by a selector that spells its ORIGINAL name and its CURRENT namespace
    (or the other way round) -/
theorem mixed_original_and_current (cs : Gvk → Bool) (hit : String → String → Bool) (s : Sel) (c : Nameref.C)
    (hname : pat hit s.name (C.org c).name = true ∨ pat hit s.name c.cur.name = true)
    (hns : pat hit s.ns (effNs cs (C.org c)) = true ∨ pat hit s.ns (effNs cs c.cur) = true)
    (hg : pat hit s.group c.cur.gvk.group = true) (hv : pat hit s.version c.cur.gvk.version = true)
    (hk : pat hit s.kind c.cur.gvk.kind = true) : idSelected cs hit s c = true := by
  simp only [idSelected, Bool.and_eq_true, Bool.or_eq_true]
  exact ⟨⟨hns, hname⟩, ⟨hg, hv⟩, hk⟩

/-- … and a resource none of whose names the pattern matches is never designated -/
theorem name_mismatch_excluded (cs : Gvk → Bool) (hit : String → String → Bool) (s : Sel) (lq aq : List Req) (x : SRes)
    (h1 : pat hit s.name (C.org x.c).name = false) (h2 : pat hit s.name x.c.cur.name = false) :
    designated cs hit s lq aq x = false := by
  simp [designated, idSelected, h1, h2]

theorem kind_mismatch_excluded (cs : Gvk → Bool) (hit : String → String → Bool) (s : Sel) (lq aq : List Req) (x : SRes)
    (h : pat hit s.kind x.c.cur.gvk.kind = false) : designated cs hit s lq aq x = false := by
  simp [designated, idSelected, h]

/-- the empty selector designates everything -/
theorem empty_selector_selects_all (cs : Gvk → Bool) (hit : String → String → Bool) (x : SRes) :
    designated cs hit ⟨"", "", "", "", "", some [], some []⟩ [] [] x = true := by
  simp [designated, idSelected, pat]

/-- a pattern that does not compile is an error before any resource is looked at -/
theorem bad_pattern_is_error (cs : Gvk → Bool) (hit : String → String → Bool) (bad : String → Bool) (s : Sel) (rs : List SRes)
    (p : String) (hp : p ∈ [s.group, s.version, s.kind, s.name, s.ns]) (hne : p ≠ "") (hb : bad p = true) :
    select cs hit bad s rs = .err "regex" := by
  unfold select
  rw [if_pos]
  exact List.any_eq_true.mpr ⟨p, hp, by simp [hne, hb]⟩

/-- a label selector that does not parse is an error exactly when some resource passes the identity sieves (and the
    result is empty exactly when none does: the clause that carries the induction) -/
theorem unparsable_selector_error_iff_reached (cs : Gvk → Bool) (hit : String → String → Bool) (s : Sel) (hl : s.lsel = none) :
    ∀ rs : List SRes, (loop cs hit s rs = .err "selector" ↔ ∃ x ∈ rs, idSelected cs hit s x.c = true) ∧
      (loop cs hit s rs = .ok [] ↔ ∀ x ∈ rs, idSelected cs hit s x.c = false) := by
  intro rs
  induction rs with
  | nil => simp [loop]
  | cons x xs ih =>
    cases h : idSelected cs hit s x.c with
    | false => simp [loop, h, ih.1, ih.2]
    | true => simp [loop, h, hl]

/-- the premises are satisfiable and the sieves are real: a renamed-and-moved Deployment is designated by its original
    name with its current namespace, a same-named ConfigMap is not (kind), a Deployment of another tier is not (label) -/
example :
    let hit : String → String → Bool := fun p v => p = v
    let dep (n ns : String) : Nameref.C := { cur := ⟨⟨"apps", "v1", "Deployment"⟩, "pre-" ++ n, ns⟩, prev := [⟨⟨"apps", "v1", "Deployment"⟩, n, "default"⟩] }
    let rs : List SRes := [⟨dep "web" "prod", [("tier", "fe")], []⟩, ⟨{ cur := ⟨⟨"", "v1", "ConfigMap"⟩, "web", "prod"⟩ }, [("tier", "fe")], []⟩,
      ⟨dep "web2" "prod", [("tier", "be")], []⟩]
    let s : Sel := ⟨"", "", "Deployment", "web", "prod", some [⟨"tier", .eq, ["fe"]⟩], some []⟩
    select (fun _ => false) hit (fun _ => false) s rs = .ok (rs.take 1) := by
  decide +kernel

end Kust.C10
