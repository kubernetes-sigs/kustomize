/-
  C12 — malformed input yields an error, never a panic.
  Every Go operation that can panic is an explicit `.panic` in the models; "never panics" is therefore a statement
  about the model, and totality of the Lean definitions is the termination argument for the modelled recursion.
  This file collects the `*_no_panic` theorems of the modelled partial functions; the whole-build search
  (structural + byte-level mutation in worker processes) is the oracle for everything not modelled.
-/
import Kust.Lemmas.Path
import Kust.Gen.CodeFacts
import Kust.Reviewed
namespace Kust.C12
open Kust Node Fns

theorem elementIndexer_no_panic (idx : Option Nat) (rn : Node) : (elementIndexer idx rn).isPanic = false := by
  fun_cases elementIndexer idx rn <;> rfl

theorem elementMatcher_no_panic (k v : String) (cr : Option Node) (rn : Node) :
    (elementMatcher k v cr rn).isPanic = false := by
  fun_cases elementMatcher k v cr rn <;> rfl

theorem classify_no_panic (p : String) : (classify p).isPanic = false := by
  fun_cases classify p <;> rfl

theorem step_no_panic (c st : Nat) (next : String) (p : Part) (rn : Node) : (step c st next p rn).isPanic = false := by
  fun_cases step c st next p rn
  -- `3`, `-` and `[k=v]` wrap what the indexer / matcher returns; the arms of a field part are values or errors
  · exact Out.isPanic_bind (elementIndexer_no_panic _ _) fun _ => rfl
  · exact Out.isPanic_bind (elementIndexer_no_panic _ _) fun _ => rfl
  · exact Out.isPanic_bind (elementMatcher_no_panic _ _ _ _) fun _ => rfl
  all_goals rfl

/-- **PathGetter never panics** (all documents, all path spellings, lookup and create): no stage of a step does —
    classification, the element or field access, the recursion — and nothing else is done.  Before the repair of
    finding 3a (C12-F4) this was false: `Lookup("-")` on an empty list panicked (`Witness.elementIndexerOld_panics`
    below keeps the old behaviour as a definition and proves the panic). -/
theorem pathGet_no_panic (ns : String → Bool) (create style : Nat) :
    ∀ (p : List String) (d : Node), (pathGet ns create style p d).isPanic = false := by
  intro p
  induction p with
  | nil => intro d; rfl
  | cons part rest ih =>
    intro d
    rw [pathGet_cons]
    refine Out.isPanic_bind (classify_no_panic part) fun p => Out.isPanic_bind (step_no_panic _ _ _ p d) fun r => ?_
    split
    · rfl
    · exact Out.isPanic_bind (ih _) fun _ => rfl

theorem lookup_no_panic (ns : String → Bool) (create style : Nat) (p : List String) (d : Node) :
    (lookup ns create style p d).isPanic = false :=
  pathGet_no_panic ns create style _ d

theorem fieldClearer_no_panic (name : String) (ife : Bool) (rn : Node) :
    (fieldClearer name ife rn).isPanic = false := by
  fun_cases fieldClearer name ife rn <;> rfl

theorem fieldSetter_no_panic (ns : String → Bool) (name : String) (v : Option Node) (keep ovr : Bool) (rn : Node) :
    (fieldSetter ns name v keep ovr rn).isPanic = false := by
  fun_cases fieldSetter ns name v keep ovr rn
  -- the two arms that erase the field (no value, a null not to be kept) are `FieldClearer{Name}`
  case case1 | case2 =>
    rename_i clear
    have : clear = fieldClearer name false rn := by cases rn <;> rfl
    exact this ▸ fieldClearer_no_panic name false rn
  all_goals rfl

/-- the pre-repair `ElementIndexer` ("last" of an empty list indexes `elems[-1]`) -/
def elementIndexerOld (idx : Option Nat) (rn : Node) : Out (Option (Nat × Node)) :=
  match rn, idx with
  | .seq _ [], none => .panic "index out of range [-1]"
  | rn, idx => elementIndexer idx rn

/-- witness of finding 3a (repaired): the old code panicked on `-` over an empty sequence. -/
theorem Witness.elementIndexerOld_panics :
    (elementIndexerOld none (.seq 0 [])).isPanic = true := by decide +kernel

/-- the explicit `panic`s, unchecked type assertions and process exits reachable from
    a build (SSA + RTA, regenerated) are exactly the reviewed list, each entry guarded by construction, limited to
    embedded data, outside the domain, or a recorded finding.  A new site makes the two lists differ. -/
theorem panic_sites_covered :
    Gen.panicSites = Reviewed.panicSites.map (fun e => (e.1, e.2.1, e.2.2.1)) := rfl

theorem panic_sites_all_reviewed : Reviewed.panicSites.all (fun e => e.2.2.2 != "UNREVIEWED") = true := by decide +kernel

end Kust.C12
