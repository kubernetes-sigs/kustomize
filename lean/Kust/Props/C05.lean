/-
  C05 — root-only load restriction confines every read to its kustomization root.
  * `hasPrefix_iff`: the containment test `ConfirmedDir.HasPrefix`, AS WRITTEN ON STRINGS, is exactly the
    path-component prefix test for cleaned directories — `/root-evil` is not below `/root`;
  * `clean_no_dots`: what `filepath.Clean` keeps of an absolute path has no `.`/`..`/empty segment, whatever the
    spelling.  (A fact about `cleanSegs true` on its own: the restrictor cleans with `cleanSegs false` and refuses a
    leading `..`; its confinement is `restrict_sound`, which does not go through this.)
  * `restrict_sound`, `load_confined`: an accepted path is a file whose directory has the root as component prefix,
    and the bytes returned come from that file; `new_root_rules`, `stack_nodup`: new roots are relative, existing
    directories, never equal to or above a root on the loading stack, hence pairwise distinct (loading cannot cycle);
  * `readers_use_loader`: the regenerated list of direct file-system reads in the build closure is the reviewed one.
-/
import Kust.Path
import Kust.Gen.CodeFacts
import Kust.Reviewed
import Kust.Lemmas.Basic
import Kust.Lemmas.Str
namespace Kust.C05
open Kust Path

/-- `c1/c2/…/`: every component followed by a slash -/
def R (cs : List Comp) : List Char := cs.flatMap (· ++ ['/'])

theorem R_cons (c : Comp) (cs : List Comp) : R (c :: cs) = c ++ '/' :: R cs := by
  simp [R]

/-- two slash-free words, each followed by a slash: the texts compare as the words and what follows them do -/
theorem word_prefix_iff {x y : Comp} (u v : List Char) (hx : '/' ∉ x) (hy : '/' ∉ y) :
    x ++ '/' :: u <+: y ++ '/' :: v ↔ x = y ∧ u <+: v := by
  induction x generalizing y with
  | nil =>
    cases y with
    | nil => simp
    | cons b y => have : '/' ≠ b := fun e => hy (e ▸ List.mem_cons_self); simp [this]
  | cons a x ih =>
    cases y with
    | nil => have : a ≠ '/' := fun e => hx (e ▸ List.mem_cons_self); simp [this]
    | cons b y =>
      simp only [List.cons_append, List.cons_prefix_cons, List.cons.injEq, and_assoc]
      rw [ih (fun h => hx (List.mem_cons_of_mem _ h)) (fun h => hy (List.mem_cons_of_mem _ h))]

/-- the heart of the matter: with a slash behind every component, textual prefix IS component prefix (`/root-evil/` does
    not start with `/root/`) -/
theorem R_prefix_iff (pp dp : List Comp) (hp : ∀ c ∈ pp, '/' ∉ c) (hd : ∀ c ∈ dp, '/' ∉ c) :
    R pp <+: R dp ↔ pp <+: dp := by
  induction pp generalizing dp with
  | nil => simp [R]
  | cons c cs ih =>
    cases dp with
    | nil => simp [R]
    | cons d ds =>
      have ⟨hc, hcs⟩ := List.forall_mem_cons.mp hp
      have ⟨hd, hds⟩ := List.forall_mem_cons.mp hd
      rw [R_cons, R_cons, word_prefix_iff _ _ hc hd, ih ds hcs hds, List.cons_prefix_cons]

theorem render_slash (c : Comp) (cs : List Comp) : render (c :: cs) ++ ['/'] = '/' :: R (c :: cs) := by
  have : ∀ cs : List Comp, (cs.flatMap fun c => '/' :: c) ++ ['/'] = '/' :: R cs := fun cs => by
    induction cs with
    | nil => rfl
    | cons c cs ih => simp [R_cons, ih]
  exact this _

/-- the string test of `ConfirmedDir.HasPrefix` on rendered directories is the component-prefix test (the arguments are
    in the order of `hasPrefix d p`: is `p` at or above `d`?) -/
theorem hasPrefix_iff (dp pp : List Comp) (hd : ∀ c ∈ dp, CompOk c) (hp : ∀ c ∈ pp, CompOk c) :
    hasPrefix (render dp) (render pp) = true ↔ pp <+: dp := by
  unfold hasPrefix
  simp only [Bool.or_eq_true, beq_iff_eq, Str.isPrefixL_iff]
  cases pp with
  | nil => exact iff_of_true (.inl (.inl rfl)) List.nil_prefix
  | cons c cs =>
    have hc : c ≠ [] := (hp c List.mem_cons_self).1
    cases dp with
    | nil => simp [render, hc]
    | cons d ds =>
      have hs : render (c :: cs) ++ ['/'] <+: render (d :: ds) ++ ['/'] ↔ c :: cs <+: d :: ds := by
        rw [render_slash, render_slash, List.prefix_cons_inj,
          R_prefix_iff _ _ (fun c h => (hp c h).2) (fun c h => (hd c h).2)]
      -- `p == d || HasPrefix(d, p + "/")` is `HasPrefix(d + "/", p + "/")`
      rw [← hs, List.prefix_concat_iff, List.append_cancel_right_eq, or_assoc]
      exact or_iff_right (by simp [render, hc])   -- `path == "/"`: not with a component `c ≠ []`

/-- the textbook near miss: `/root-evil` is not below `/root`, although it has `/root` as a string prefix -/
example : hasPrefix "/root-evil".toList "/root".toList = false ∧ Str.isPrefixL "/root".toList "/root-evil".toList = true ∧
    hasPrefix "/root/sub".toList "/root".toList = true ∧ hasPrefix "/root".toList "/".toList = true := by decide +kernel

/-! ### Clean -/

theorem cleanSegs_abs_no_dots (segs acc : List String) (h : ∀ s ∈ acc, s ≠ "" ∧ s ≠ "." ∧ s ≠ "..") :
    ∀ s ∈ cleanSegs true acc segs, s ≠ "" ∧ s ≠ "." ∧ s ≠ ".." := by
  fun_induction cleanSegs true acc segs
  case case1 => simpa using h                                       -- no segment left
  case case2 ih => exact ih h                                       -- "" or "."
  case case3 ih => exact ih h                                       -- ".." at the root vanishes
  case case4 => contradiction                                       -- the branch of relative paths
  case case5 => exact absurd rfl (h ".." (by simp)).2.2             -- ".." on the stack: `h` excludes it
  case case6 ih => exact ih fun s hs => h s (List.mem_cons_of_mem _ hs)   -- ".." pops
  case case7 h1 h2 ih =>                                            -- a name is pushed
    refine ih fun x hx => ?_
    rcases List.mem_cons.mp hx with rfl | hx
    · exact ⟨fun e => h1 (.inl e), fun e => h1 (.inr e), h2⟩
    · exact h x hx

/-- the segments `filepath.Clean` keeps for an absolute path contain no `.`, `..` or empty
    segment — whatever the spelling (`a/../../b`, `//`, `./`) of the input. -/
theorem clean_no_dots (segs : List String) : ∀ s ∈ cleanSegs true [] segs, s ≠ "" ∧ s ≠ "." ∧ s ≠ ".." :=
  cleanSegs_abs_no_dots segs [] (by simp)

/-! ### restriction and loader -/

theorem isPrefixC_iff (p d : List String) : isPrefixC p d = true ↔ p <+: d := by
  induction p generalizing d with
  | nil => simp [isPrefixC]
  | cons a p ih => cases d <;> simp [isPrefixC, ih]

theorem cleanedAbs_file {fs : Fs} {path : String} {d : List String} {f : String}
    (h : cleanedAbs fs path = .ok (d, f)) (hf : f ≠ "") : ∃ c, lookup fs (d ++ [f]) = some (.file c) := by
  revert h
  fun_cases cleanedAbs fs path
  case case4 cs _ _ c hl =>     -- a file is found
    intro h
    obtain ⟨rfl, rfl⟩ := Prod.mk.inj (Out.ok.inj h)
    -- the name is not "", so there is a last component, and directory ++ [name] is the path looked up
    cases hl' : cs.getLast? with
    | none => simp [hl'] at hf
    | some l =>
      obtain ⟨ys, hys⟩ := List.getLast?_eq_some_iff.mp hl'
      exact ⟨c, by rw [Option.getD_some, hys, List.dropLast_concat, ← hys, hl]⟩
  case case3 => intro h; exact absurd (Prod.mk.inj (Out.ok.inj h)).2.symm hf    -- a directory: the name is ""
  all_goals intro h; cases h

/-- whatever spelling is given, an accepted path names an existing FILE whose directory has the
    root as a component prefix. -/
theorem restrict_sound (fs : Fs) (root : List String) (path : String) (p : List String)
    (h : restrictRootOnly fs root path = .ok p) :
    ∃ d f c, p = d ++ [f] ∧ root <+: d ∧ lookup fs p = some (.file c) := by
  revert h
  fun_cases restrictRootOnly fs root path
  case case3 d f hca hf hpre =>     -- a file below the root
    intro h; obtain rfl := Out.ok.inj h
    obtain ⟨c, hc⟩ := cleanedAbs_file hca hf
    exact ⟨d, f, c, rfl, (isPrefixC_iff _ _).mp (by simpa using hpre), hc⟩
  all_goals intro h; cases h

/-- the bytes `Load` returns are the content of a file below the loader's root; a rejected load
    returns only an error class (the type `Out String` has no room for content beside an error) -/
theorem load_confined (fs : Fs) (root : List String) (path content : String)
    (h : loaderLoad fs root path = .ok content) :
    ∃ d f, root <+: d ∧ lookup fs (d ++ [f]) = some (.file content) := by
  unfold loaderLoad at h
  split at h
  next p hp =>                 -- the path is accepted …
    split at h
    next c hl =>               -- … and holds a file
      cases h
      obtain ⟨d, f, _, rfl, hpre, _⟩ := restrict_sound fs root _ p hp
      exact ⟨d, f, hpre, hl⟩
    all_goals cases h
  all_goals cases h

/-- what `FileLoader.New` checks of a new root: a relative spelling, an existing directory, neither equal to nor above
    a root on the loading stack -/
theorem new_root_rules (fs : Fs) (stack : List (List String)) (path : String) (cand : List String)
    (h : loaderNew fs stack path = .ok cand) :
    isAbs path = false ∧ isDir fs cand = true ∧ ∀ r ∈ stack, ¬ cand <+: r := by
  unfold loaderNew at h
  -- every test but the last ends in an error when it fails
  obtain ⟨-, h⟩ := (ite_eq_cases h).resolve_left (by simp)
  obtain ⟨habs, h⟩ := (ite_eq_cases h).resolve_left (by simp)
  cases stack with
  | nil => cases h
  | cons root tail =>
    obtain ⟨hdir, h⟩ := (ite_eq_cases h).resolve_left (by simp)
    obtain ⟨hany, h⟩ := (ite_eq_cases h).resolve_left (by simp)
    obtain rfl := Out.ok.inj h
    simp only [Bool.not_eq_true, List.any_eq_true, not_exists, not_and, isPrefixC_iff] at habs hdir hany
    exact ⟨habs, by simpa using hdir, hany⟩

/-- roots on a loading stack are pairwise distinct — a directory can be on the stack at most
    once (so a stack is no deeper than the number of directories; termination itself is not stated here). -/
theorem stack_nodup (fs : Fs) (stack : List (List String)) (path : String) (cand : List String)
    (hs : stack.Nodup) (h : loaderNew fs stack path = .ok cand) : (cand :: stack).Nodup := by
  obtain ⟨_, _, hno⟩ := new_root_rules fs stack path cand h
  rw [List.nodup_cons]
  exact ⟨fun hm => hno cand hm (List.prefix_refl _), hs⟩

/-- the direct file-system reads reachable from a build are exactly the reviewed ones (function and callee; the
    count column of the regenerated table is not compared) —
    `FileLoader.Load` (behind the restrictor), the file-system implementation itself, and the `edit fix` helper. -/
theorem readers_use_loader :
    Gen.fsReadSites.map (fun e => (e.1, e.2.1)) = Reviewed.fsReadSites.map (fun e => (e.1, e.2.1)) := rfl

end Kust.C05
