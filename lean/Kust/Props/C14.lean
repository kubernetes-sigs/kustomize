/-
  C14 — field-path operations on YAML nodes obey get/set laws.
  Statements are about the transliterated kyaml primitives of `Kust.Fns` (tied to kyaml/yaml/fns.go by the
  correspondence components fns.lookup / fns.setfield / fns.clear / fns.setelem).
  `ns` (yaml.IsValueNonString) is an arbitrary parameter wherever it occurs.
-/
import Kust.Lemmas.Path
import Kust.Lemmas.Ident
namespace Kust.C14
open Kust Node Fns

variable (ns : String → Bool)

/-- what `FieldSetter` stores for value `v` over a possibly existing `old` -/
def stored (ovr : Bool) (old : Option Node) (v : Node) : Node :=
  match old with
  | some o => inheritStyle ovr o (quoteIfNonString ns ovr v)
  | none => quoteIfNonString ns ovr v

/-- a value that is there to stay is stored under the name (with the style rules of `stored`) -/
theorem fieldSetter_store (name : String) (v : Node) (keep ovr : Bool) (s : Nat) (fs : Fields)
    (hv : v.isNull = false ∨ keep = true) :
    fieldSetter ns name (some v) keep ovr (.map s fs) =
      .ok (.map s (fieldPut name (stored ns ovr (fieldGet name fs) v) fs), some (stored ns ovr (fieldGet name fs) v)) := by
  have hn : ¬ ((quoteIfNonString ns ovr v).isNull = true ∧ (!keep) = true) := by
    rw [quoteIfNonString_isNull]; rcases hv with h | h <;> simp [h]
  simp only [fieldSetter, Option.map_some, if_neg hn]
  cases hg : fieldGet name fs <;> simp [stored, fieldPut, hg]

/-- **`FieldSetter` on a mapping never fails**: it erases the field (no value, or a null not to be kept) or puts a
    value there -/
theorem fieldSetter_map (name : String) (v : Option Node) (keep ovr : Bool) (s : Nat) (fs : Fields) :
    ∃ fs' r, fieldSetter ns name v keep ovr (.map s fs) = .ok (.map s fs', r) ∧
      (fs' = fieldErase name fs ∨ ∃ w, fs' = fieldPut name w fs) := by
  cases v with
  | none => exact ⟨_, _, rfl, Or.inl rfl⟩
  | some v =>
    by_cases hv : v.isNull = false ∨ keep = true
    · exact ⟨_, _, fieldSetter_store ns name v keep ovr s fs hv, Or.inr ⟨_, rfl⟩⟩
    · have hn : (quoteIfNonString ns ovr v).isNull = true ∧ (!keep) = true := by
        rw [quoteIfNonString_isNull]; simpa using hv
      exact ⟨_, fieldGet name fs, by simp only [fieldSetter, Option.map_some, if_pos hn], Or.inl rfl⟩

/-- **put-get (field).** Setting a non-null (or kept) value on a mapping node succeeds, and looking the
    field up afterwards returns exactly the node that was stored. -/
theorem setfield_get (name : String) (v : Node) (keep ovr : Bool) (s : Nat) (fs : Fields)
    (hv : v.isNull = false ∨ keep = true) :
    ∃ fs', fieldSetter ns name (some v) keep ovr (.map s fs)
        = .ok (.map s fs', some (stored ns ovr (fieldGet name fs) v))
      ∧ fieldGet name fs' = some (stored ns ovr (fieldGet name fs) v) :=
  ⟨_, fieldSetter_store ns name v keep ovr s fs hv, fieldGet_put_same _ _ _⟩

/-- **frame (field).** Every other field of the mapping node is untouched by a set. -/
theorem setfield_frame (name other : String) (v : Option Node) (keep ovr : Bool) (s : Nat) (fs : Fields)
    (d' : Node) (r : Option Node) (hne : other ≠ name)
    (h : fieldSetter ns name v keep ovr (.map s fs) = .ok (d', r)) :
    ∃ fs', d' = .map s fs' ∧ fieldGet other fs' = fieldGet other fs := by
  obtain ⟨fs', r', h', hfs⟩ := fieldSetter_map ns name v keep ovr s fs
  rw [h'] at h
  cases h
  rcases hfs with rfl | ⟨w, rfl⟩
  · exact ⟨_, rfl, fieldGet_erase_other name other fs hne⟩
  · exact ⟨_, rfl, fieldGet_put_other name other w fs hne⟩

theorem withStyle_withStyle (n : Node) (a b : Nat) : (n.withStyle a).withStyle b = n.withStyle b := by
  cases n <;> rfl
theorem style_withStyle (n : Node) (a : Nat) : (n.withStyle a).style = a := by
  cases n <;> rfl
theorem withStyle_style (n : Node) : n.withStyle n.style = n := by
  cases n <;> rfl

theorem inheritStyle_self (ovr : Bool) (v : Node) : inheritStyle ovr v v = v := by
  unfold inheritStyle; split
  · exact withStyle_style v
  · rfl

theorem inheritStyle_idem (ovr : Bool) (old v : Node) :
    inheritStyle ovr (inheritStyle ovr old v) v = inheritStyle ovr old v := by
  by_cases h : (!ovr) = true ∨ old.style = 0
  · -- the destination's style was taken over: what is stored has it, and it is taken over again
    rw [show inheritStyle ovr old v = v.withStyle old.style from if_pos h, inheritStyle, style_withStyle, if_pos h]
  · -- the value was stored as it came
    rw [show inheritStyle ovr old v = v from if_neg h, inheritStyle_self]

/-- **put-put (field).** Repeating the same set changes nothing further. -/
theorem setfield_idem (name : String) (v : Node) (keep ovr : Bool) (s : Nat) (fs : Fields)
    (hv : v.isNull = false ∨ keep = true) :
    ∀ d' r, fieldSetter ns name (some v) keep ovr (.map s fs) = .ok (d', r) →
      fieldSetter ns name (some v) keep ovr d' = .ok (d', r) := by
  intro d' r h
  rw [fieldSetter_store ns name v keep ovr s fs hv] at h
  cases h
  -- what is stored over the value just stored is that value again
  have hst : stored ns ovr (some (stored ns ovr (fieldGet name fs) v)) v = stored ns ovr (fieldGet name fs) v := by
    cases fieldGet name fs with
    | none => exact inheritStyle_self ovr _
    | some o => exact inheritStyle_idem ovr o _
  rw [fieldSetter_store ns name v keep ovr s _ hv, fieldGet_put_same, hst, fieldPut_put]

/-- **clear of an absent field is a no-op.** -/
theorem clear_absent_noop (name : String) (s : Nat) (fs : Fields) (h : fieldGet name fs = none) :
    fieldClearer name false (.map s fs) = .ok (.map s fs, none) := by
  simp [fieldClearer, fieldErase_absent name fs h, h]

/-- **frame (clear).** Every other field of the mapping node is untouched by a clear. -/
theorem clear_frame (name other : String) (s : Nat) (fs : Fields) (hne : other ≠ name) :
    ∃ fs' r, fieldClearer name false (.map s fs) = .ok (.map s fs', r) ∧
      fieldGet other fs' = fieldGet other fs :=
  ⟨fieldErase name fs, fieldGet name fs, by simp [fieldClearer], fieldGet_erase_other name other fs hne⟩

/-! ### clear: what is gone, what is returned, how much is removed -/

theorem fieldGet_none_of_not_mem (name : String) (fs : Fields) (h : name ∉ fs.map (·.1)) : fieldGet name fs = none := by
  induction fs with
  | nil => rfl
  | cons kv r ih =>
    obtain ⟨k, v⟩ := kv
    simp only [List.map_cons, List.mem_cons, not_or] at h
    have hk : ¬ k = name := fun e => h.1 e.symm
    simp [fieldGet, hk, ih h.2]

theorem fieldGet_erase_same (name : String) (fs : Fields) (hnd : (fs.map (·.1)).Nodup) :
    fieldGet name (fieldErase name fs) = none := by
  induction fs with
  | nil => rfl
  | cons kv r ih =>
    obtain ⟨k, v⟩ := kv
    simp only [List.map_cons, List.nodup_cons] at hnd
    by_cases hk : k = name
    · subst hk; simpa [fieldErase] using fieldGet_none_of_not_mem k r hnd.1
    · simpa [fieldErase, fieldGet, hk] using ih hnd.2

/-- **get after clear**: in a mapping without duplicate keys (what every YAML parser output of a valid document
    is) the cleared field is gone, and what the clearer hands back is what a lookup found.  (Only the first occurrence
    is cleared: a duplicate key, kept as the Go code keeps it, would become visible.) -/
theorem clear_get (name : String) (s : Nat) (fs : Fields) (hnd : (fs.map (·.1)).Nodup) :
    ∃ fs' r, fieldClearer name false (.map s fs) = .ok (.map s fs', r) ∧ fieldGet name fs' = none ∧ r = fieldGet name fs :=
  ⟨fieldErase name fs, fieldGet name fs, by simp [fieldClearer], fieldGet_erase_same name fs hnd, rfl⟩

/-- **clear removes exactly one entry** when the field is there (and none otherwise, `clear_absent_noop`) -/
theorem clear_length (name : String) (fs : Fields) (x : Node) (h : fieldGet name fs = some x) :
    (fieldErase name fs).length + 1 = fs.length := by
  fun_induction fieldGet name fs <;> simp_all [fieldErase]

/-- **clear is idempotent** on mappings without duplicate keys -/
theorem clear_clear (name : String) (fs : Fields) (hnd : (fs.map (·.1)).Nodup) :
    fieldErase name (fieldErase name fs) = fieldErase name fs :=
  fieldErase_absent name _ (fieldGet_erase_same name fs hnd)

/-- the duplicate-key caveat is real: with a repeated key the second occurrence becomes visible -/
example : fieldGet "a" (fieldErase "a" [("a", .scalar "!!str" "1" 0), ("a", .scalar "!!str" "2" 0)]) = some (.scalar "!!str" "2" 0) := by
  simp [fieldErase, fieldGet]

/-- a path whose every part is a plain field name (no index, `-`, `*` or `[k=v]` part) -/
def FieldPath (p : List String) : Prop := ∀ part ∈ p, classify part = .ok (.field part)

/-- **put-get at path level.** Whatever `LookupCreate(kind, p…)` returns as the addressed node is
    exactly what a plain `Lookup(p…)` finds in the resulting document, and that lookup leaves the
    document as it is — for every field path, every document, every creation kind. -/
theorem create_then_lookup (ns : String → Bool) (c st : Nat) :
    ∀ (p : List String), FieldPath p → ∀ (d d' n : Node),
      pathGet ns c st p d = .ok (d', some n) → pathGet ns 0 0 p d' = .ok (d', some n) := by
  intro p
  induction p with
  | nil =>
    intro _ d d' n h
    simp only [pathGet, Out.ok.injEq, Prod.mk.injEq, Option.some.injEq] at h
    obtain ⟨rfl, rfl⟩ := h
    rfl
  | cons part rest ih =>
    intro hp d d' n h
    have hc : classify part = .ok (.field part) := hp part (by simp)
    rw [pathGet_cons, hc, Out.ok_bind] at h ⊢
    cases d with
    | map s fs =>
      cases hch : fieldChild c st part (rest.head?.getD "") fs with
      | none => simp [step, hch] at h
      | some x =>
        simp only [step, hch, Option.map_some, Out.ok_bind, Out.bind_eq_ok, Out.ok.injEq, Prod.mk.injEq] at h
        obtain ⟨⟨x', r⟩, hrec, rfl, rfl⟩ := h
        -- in the result the field is there and holds `x'`; inside it the lookup finds `n` and changes nothing
        -- (induction), and `x'` is put back over itself
        simp [step, ih (fun q hq => hp q (by simp [hq])) _ _ _ hrec]
    | _ => simp only [step] at h; split at h <;> simp at h

/-- the premise is satisfiable and the creation branch is exercised: `a.b.c` created in `{a: {}}` -/
example : FieldPath ["a", "b", "c"] ∧
    ∃ d' n, pathGet (fun _ => false) 1 0 ["a", "b", "c"] (.map 0 [("a", .map 0 [])]) = .ok (d', some n)
      ∧ pathGet (fun _ => false) 0 0 ["a", "b", "c"] d' = .ok (d', some n) := by
  refine ⟨by intro q hq; simp at hq; rcases hq with rfl | rfl | rfl <;> (apply Str.classify_ident; rfl), ?_⟩
  exact ⟨.map 0 [("a", .map 0 [("b", .map 0 [("c", .scalar "" "" 0)])])], .scalar "" "" 0, by decide +kernel, by decide +kernel⟩

end Kust.C14
