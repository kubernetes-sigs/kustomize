/-
  C14 (path syntax) — theorems about `Kust.PathSplit`, the model of utils.PathSplitter / SmarterPathSplitter, tied by
  the correspondence `path.split`.
-/
import Kust.PathSplit
import Kust.Lemmas.PathSplit
namespace Kust.C14
open Kust Kust.PathSplit

/-- re-joining does nothing when no piece ends in a backslash -/
theorem merge_plain (d : Char) (ps : List String) (h : ∀ p ∈ ps, Str.hasSuffix p "\\" = false) : merge d [] ps = ps := by
  induction ps with
  | nil => rfl
  | cons p ps ih =>
    cases ps with
    | nil => rfl
    | cons q r =>
      rw [merge_cons_cons, h p List.mem_cons_self, if_neg Bool.false_ne_true,
        ih fun x hx => h x (List.mem_cons_of_mem _ hx)]

/-- **without escapes the splitter is plain splitting** (a leading delimiter aside): a path that contains no backslash is
    split exactly at its delimiters -/
theorem split_plain (d : Char) (path : String) (h : '\\' ∉ path.toList) :
    split d path = dropLead (Str.splitChar d path) := by
  refine merge_plain d _ fun p hp => ?_
  rw [← Bool.not_eq_true, endsEsc_iff]
  intro hl
  exact h (Str.splitChar_chars d path p (dropLead_subset _ hp) (List.mem_of_getLast? hl))

/-- … and an escaped delimiter joins: `a\/b\/c` is ONE element however many delimiters it contains -/
example : split '/' "metadata/annotations/a\\/b\\/c" = ["metadata", "annotations", "a/b/c"] ∧
          split '.' "metadata.labels.app\\.kubernetes\\.io/name" = ["metadata", "labels", "app.kubernetes.io/name"] ∧
          smarter '.' "spec.containers.[name=a.b].image" = ["spec", "containers", "[name=a.b]", "image"] ∧
          split '/' "/a/b" = ["a", "b"] := by
  -- `strings.Split` of each literal is taken on characters (`Str.splitChar_ofList`); re-joining runs as it is
  refine ⟨?_, ?_, ?_, ?_⟩
  · rw [split, Str.splitChar_ofList]; decide +kernel
  · rw [split, Str.splitChar_ofList]; decide +kernel
  · rw [smarter, split, Str.splitChar_ofList]; decide +kernel
  · rw [split, Str.splitChar_ofList]; decide +kernel

/-- escape every delimiter of an element -/
def esc (d : Char) : List Char → List Char
  | [] => []
  | c :: cs => if c = d then '\\' :: d :: esc d cs else c :: esc d cs

/-- scanning an escaped element never closes a piece: whatever the element and the open piece are, the element is
    appended to the open piece (`cur` is kept reversed, hence `e.reverse ++ cur`), each of its delimiters being swallowed
    by the backslash that `esc` put before it -/
theorem scan_esc (d : Char) (hd : d ≠ '\\') (e cur rest : List Char) :
    scan d (esc d e ++ rest) cur = scan d rest (e.reverse ++ cur) := by
  fun_induction esc d e generalizing cur with
  | case1 => rfl
  | case2 cs ih => simp [scan_ne (Ne.symm hd), scan_sep_esc, ih]  -- a delimiter, escaped
  | case3 c cs hc ih => simp [scan_ne hc, ih]

/-- joining escaped elements with the delimiter -/
def joinEsc (d : Char) : List (List Char) → List Char
  | [] => []
  | [e] => esc d e
  | e :: f :: r => esc d e ++ d :: joinEsc d (f :: r)

/-- **escaping is the inverse of splitting** (character level): a list of elements, none of which ends in a backslash,
    written with its delimiters escaped and joined by the delimiter, scans back into exactly these elements — however
    many delimiters an element contains. -/
theorem scan_joinEsc (d : Char) (hd : d ≠ '\\') (es : List (List Char)) (hne : es ≠ [])
    (hall : ∀ e ∈ es, e.getLast? ≠ some '\\') : scan d (joinEsc d es) [] = es := by
  fun_induction joinEsc d es with
  | case1 => exact absurd rfl hne
  | case2 e => simpa [scan] using scan_esc d hd e [] []  -- the text ends inside the only element
  | case3 e f r ih =>
    -- `e` does not end in a backslash, so the delimiter after it closes the piece
    have he : (e.reverse ++ []).head? ≠ some '\\' := by simpa using hall e (by simp)
    rw [scan_esc d hd, scan_sep he, ih (by simp) fun x hx => hall x (by simp [hx])]
    simp

/-- an element with three delimiters survives the round trip as ONE element -/
example : scan '/' (joinEsc '/' ["metadata".toList, "a/b/c/d".toList, "x".toList]) []
    = ["metadata".toList, "a/b/c/d".toList, "x".toList] := by decide +kernel

/-- **a key with any number of delimiters is addressable**: elements written with their delimiters escaped and joined
    by the delimiter are split back into exactly these elements (first element non-empty, none ending in a backslash) -/
theorem splitScan_joinEsc (d : Char) (hd : d ≠ '\\') (es : List (List Char)) (hne : es ≠ [])
    (hall : ∀ e ∈ es, e.getLast? ≠ some '\\') (hfirst : ∀ e, es.head? = some e → e ≠ []) :
    splitScan d (String.ofList (joinEsc d es)) = es.map String.ofList := by
  obtain ⟨e, rest, rfl⟩ := List.exists_cons_of_ne_nil hne
  obtain ⟨c, cs, rfl⟩ := List.exists_cons_of_ne_nil (hfirst e rfl)
  -- the text begins with `c` or, if `c` is the delimiter, with its backslash: no leading delimiter to skip
  have hskip : skipLead d (joinEsc d ((c :: cs) :: rest)) = joinEsc d ((c :: cs) :: rest) := by
    cases rest <;> by_cases hc : c = d <;> simp [joinEsc, esc, skipLead, hc, Ne.symm hd]
  rw [splitScan, String.toList_ofList, hskip, scan_joinEsc d hd _ hne hall]

/-- **the splitter written like the Go code IS the scan**: splitting at every delimiter and re-joining the pieces whose
    predecessor ends in a backslash (`PathSplitter`'s two loops, model `split`) computes, for every path and every
    delimiter, what one left-to-right scan computes -/
theorem split_is_scan (d : Char) (path : String) : split d path = splitScan d path :=
  split_eq_splitScan d path

/-- … so the round trip holds of the Go-shaped model itself: elements written with their delimiters escaped and joined
    by the delimiter are split back into exactly these elements, however many delimiters each contains -/
theorem split_joinEsc (d : Char) (hd : d ≠ '\\') (es : List (List Char)) (hne : es ≠ [])
    (hall : ∀ e ∈ es, e.getLast? ≠ some '\\') (hfirst : ∀ e, es.head? = some e → e ≠ []) :
    split d (String.ofList (joinEsc d es)) = es.map String.ofList := by
  rw [split_is_scan]; exact splitScan_joinEsc d hd es hne hall hfirst

theorem smarterGo_plain (d : Char) (l : List String) (h : ∀ e ∈ l, Str.hasPrefix e "[" = false) :
    smarterGo d none l = l := by
  induction l with
  | nil => rfl
  | cons e r ih =>
    rw [smarterGo, h e List.mem_cons_self, Bool.false_and, if_neg Bool.false_ne_true,
      ih fun x hx => h x (List.mem_cons_of_mem _ hx)]

/-- **without brackets the smarter splitter is the splitter**: when no element starts with `[`, the bracket handling
    changes nothing -/
theorem smarter_plain (d : Char) (path : String) (h : ∀ e ∈ split d path, Str.hasPrefix e "[" = false) :
    smarter d path = split d path := by
  unfold smarter; exact smarterGo_plain d _ h

example : split '/' (String.ofList (joinEsc '/' ["metadata".toList, "a/b/c/d".toList, "x".toList]))
    = ["metadata", "a/b/c/d", "x"] := by decide +kernel

end Kust.C14
