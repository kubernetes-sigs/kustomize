/-
  C14 (field-spec clause) — "the slash-separated field-spec paths used by transformers visit exactly the nodes that a
  reference interpretation of the path denotes".  Theorem about `Kust.FieldSpec.filter` (the model of
  api/filters/fieldspec, tied by the correspondence `fieldspec.apply`), positions as in `Kust.Match`.
  A run edits the document at the denoted positions and nowhere else (`filter_edits`, with `EditedAt` of
  `Lemmas/Pos.lean`, which each step of the traversal keeps): `filter_denotes` is its first two clauses,
  `C02.filter_id` its third.
-/
import Kust.Lemmas.FieldSpec
import Kust.Lemmas.Pos
namespace Kust.C14
open Kust Node Fns FieldSpec Kust.Match Kust.C02

/-- the positions `rec` gives in each item, below the item's index (`Match.denoteElems` with every item selected) -/
def fsDenoteItems (rec : Node → List Pos) : Nat → List Node → List Pos
  | _, [] => []
  | i, e :: es => (rec e).map (Step.idx i :: ·) ++ fsDenoteItems rec (i + 1) es

/-- reference interpretation of a field-spec path: field names descend, EVERY sequence on the way fans out over its
    elements (at every level), null nodes are skipped -/
def fsDenote : Nat → List String → Node → List Pos
  | 0, _, _ => []
  | _ + 1, [], _ => [[]]
  | f + 1, seg :: rest, obj =>
    if obj.isNull then []
    else match obj with
    | .scalar .. => []
    | .seq _ is => fsDenoteItems (fsDenote f (seg :: rest)) 0 is
    | .map _ fs =>
      match fieldGet seg fs with
      | some x => (fsDenote f rest x).map (Step.key seg :: ·)
      | none => []

theorem mem_fsDenoteItems (rec : Node → List Pos) : ∀ (is : List Node) (b : Nat) (p : Pos),
    p ∈ fsDenoteItems rec b is ↔ ∃ i e p0, is[i]? = some e ∧ p0 ∈ rec e ∧ p = Step.idx (i + b) :: p0 := by
  intro is
  induction is with
  | nil => intro b p; simp [fsDenoteItems]
  | cons x xs ih =>
    intro b p
    -- the first item, or a later one
    rw [← Nat.or_exists_add_one]
    simp only [fsDenoteItems, List.mem_append, List.mem_map, eq_comm, ih, Nat.add_assoc, Nat.add_comm 1,
      exists_and_left, List.getElem?_cons_zero, Option.some.injEq, Nat.zero_add, exists_eq_left', List.getElem?_cons_succ]

/-- edits of the items are an edit of the sequence, below their indices -/
theorem _root_.Kust.Match.EditedAt.items {set : Node → Out Node} {D : Node → List Pos} {s : Nat} {is is' : List Node}
    (hlen : is'.length = is.length)
    (h : ∀ (i : Nat) e, is[i]? = some e → ∃ e', is'[i]? = some e' ∧ EditedAt set (D e) e e') :
    EditedAt set (fsDenoteItems D 0 is) (.seq s is) (.seq s is') := by
  apply EditedAt.intro <;> simp only [mem_fsDenoteItems]
  · rintro p ⟨i, e, p0, hie, hp0, rfl⟩
    obtain ⟨e', he', hed⟩ := h i e hie
    obtain ⟨t, t', a1, a2, a3⟩ := hed.1 p0 hp0
    exact ⟨t, t', (getAt_idx p0 hie).trans a1, a2, (getAt_idx p0 he').trans a3⟩
  · intro b q hq
    match b with
    | .key k => rfl
    | .idx j =>
      cases hje : is[j]? with
      | none =>
        rw [List.getElem?_eq_none_iff] at hje
        simp only [getAt, List.getElem?_eq_none_iff.2 hje, List.getElem?_eq_none_iff.2 (hlen ▸ hje)]
      | some e =>
        obtain ⟨e', he', hed⟩ := h j e hje
        rw [getAt_idx q he', getAt_idx q hje]
        exact hed.2.1 q fun p0 hp0 => apart_of_cons (hq _ ⟨j, e, p0, hje, hp0, rfl⟩)
  · intro hfix
    -- item by item: an item whose edits change nothing is unchanged
    have hitem : ∀ (j : Nat) e, is[j]? = some e → is'[j]? = some e := fun j e hje => by
      obtain ⟨e', he', hed⟩ := h j e hje
      rw [he', hed.2.2 fun p0 hp0 t t' ht => hfix _ ⟨j, e, p0, hje, hp0, rfl⟩ t t' ((getAt_idx p0 hje).trans ht)]
    rw [ext_of_getElem? hlen hitem]

/-- **what a run of the filter without creation does**, along a plain path: it edits the document at the positions the
    path denotes -/
theorem filter_edits (ns : String → Bool) (set : Node → Out Node) (cr : Create) :
    ∀ (fuel : Nat) (path : List String) (obj obj' : Node), (∀ seg ∈ path, Plain seg) →
      filter ns set false cr fuel path obj = .ok obj' → EditedAt set (fsDenote fuel path obj) obj obj' := by
  intro fuel
  induction fuel with
  | zero => intro path obj obj' _ h; cases h
  | succ f ih =>
    intro path obj obj' hp h
    cases path with
    | nil => exact .here (by rwa [filter_nil] at h)
    | cons seg rest =>
      by_cases hn : obj.isNull = true
      · rw [filter_null hn] at h; cases h
        simp only [fsDenote, hn, if_true]
        exact .none obj
      cases obj with
      | scalar t v s => rw [filter.eq_def] at h; simp [hn] at h
      | seq s is =>
        rw [filter_seq] at h
        obtain ⟨is', his, h⟩ := Out.bind_eq_ok.1 h
        cases h
        obtain ⟨hlen, hitems⟩ := filterItems_spec his
        exact .items hlen fun i e hie => (hitems i e hie).imp fun e' he' => ⟨he'.1, ih _ e e' hp he'.2⟩
      | map s fs =>
        rw [filter_map_nocreate (hp seg List.mem_cons_self)] at h
        simp only [fsDenote, isNull_map, Bool.false_eq_true, if_false]
        cases hg : fieldGet seg fs with
        | none => simp [hg] at h; subst h; exact .none _
        | some x =>
          simp only [hg, Out.bind_eq_ok, Out.ok.injEq] at h
          obtain ⟨x', hx, rfl⟩ := h
          exact .key hg (ih rest x x' (fun s hs => hp s (List.mem_cons_of_mem _ hs)) hx)

/-- **the field-spec filter acts exactly at the nodes the path denotes.** Without creation, for every plain path,
    every document and every setter: when the filter succeeds, (A) at each denoted position the new node is what the
    setter made of the old one, and (B) every position that is neither on the way to a denoted position nor below one
    holds the node it held before. -/
theorem filter_denotes (ns : String → Bool) (set : Node → Out Node) (cr : Create) :
    ∀ (fuel : Nat) (path : List String) (obj obj' : Node), (∀ seg ∈ path, Plain seg) →
      filter ns set false cr fuel path obj = .ok obj' →
      (∀ p ∈ fsDenote fuel path obj, ∃ t t', getAt p obj = some t ∧ set t = .ok t' ∧ getAt p obj' = some t') ∧
      (∀ q, (∀ p ∈ fsDenote fuel path obj, ¬ p <+: q ∧ ¬ q <+: p) → getAt q obj' = getAt q obj) :=
  fun fuel path obj obj' hp h => (filter_edits ns set cr fuel path obj obj' hp h).imp_right And.left

/-- the premises are satisfiable and the fan-out is real: `spec/containers/image` reaches every container -/
example :
    fsDenote 5 ["spec", "containers", "image"]
      (.map 0 [("spec", .map 0 [("containers", .seq 0 [
        .map 0 [("name", .scalar "!!str" "a" 0), ("image", .scalar "!!str" "x" 0)],
        .scalar "!!null" "null" 0,
        .map 0 [("image", .scalar "!!str" "y" 0)]])])])
      = [[.key "spec", .key "containers", .idx 0, .key "image"], [.key "spec", .key "containers", .idx 2, .key "image"]] := by
  decide +kernel

end Kust.C14
