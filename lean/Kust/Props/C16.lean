/-
  C16 — independent builds may run concurrently without interfering.  PARTIAL by nature: the Go memory model,
  sync.RWMutex and goroutine-local state are assumed as modelled in `Kust.Sync`; the link to the code is the
  regenerated access table (SSA + RTA from (*Kustomizer).Run, syntactic lock-status propagation).
  * `Sync.lockset_drf`: lock discipline ⇒ no interleaving has two simultaneous conflicting accesses (proved).
  * `access_table_disciplined`: in the CURRENT source every access to a package-level variable that is written
    outside `init` is made by a function that takes a lock itself or is only called by such functions — the
    hypothesis of `lockset_drf` for the real code (kernel evaluation over the regenerated table; the Go-plugin registry
    is exempted).  It was false before the repair C16-F5 (IsNamespaceScoped / SchemaForResourceType read the maps
    unlocked).
  * the default-schema view is confluent: `C01.observeAll_of_default` (every default-selection state observes the
    built-in schema and nothing else).
-/
import Kust.Sync
import Kust.Gen.CodeFacts
import Kust.Reviewed
import Kust.Props.C01
namespace Kust.C16
open Kust Sync

/-- the package-level variables written outside `init` on the build path are exactly the reviewed ones -/
theorem globals_reviewed : Gen.mutableGlobals.map (·.1) = Reviewed.mutableGlobals := rfl

/-- … and the only package-level variables handed BY REFERENCE to a call on the build path (their address, or the
    shared object a package-level pointer / map / channel designates) are the reviewed ones: the schema lock, a
    `sync.Once`, an immutable codec, a table that is copied before use.  A memo kept in a `sync.Map`, a cache object
    behind a package-level pointer, … shows up here. -/
theorem globals_byref_reviewed :
    Gen.globalsByRef.map (fun e => (e.1, e.2.1)) = Reviewed.globalsByRef.map (fun e => (e.1, e.2.1)) := rfl

/-- Go-plugin registry: outside the property's domain (builds with built-in transformers only) -/
def exempt (g : String) : Bool := g = "api/internal/plugins/loader.registry"

/-- every access of the regenerated table (`e.2.2`: 2 = the function takes a lock itself, 1 = all its callers hold one,
    0 = unlocked) is locked, the exempted plugin registry aside -/
theorem access_table_disciplined :
    Gen.globalAccess.all (fun e => decide (1 ≤ e.2.2) || exempt e.1) = true := by decide +kernel

/-- the schema global is accessed by at least four locking functions (the table is not vacuous) -/
theorem schema_accesses_present :
    (Gen.globalAccess.filter (fun e => e.1 == "kyaml/openapi.globalSchema" && e.2.2 == 2)).length ≥ 4 := by decide +kernel

/-- the shape the table establishes: each build's accesses to the schema state are bracketed by the schema lock -/
def buildThread : List Ev := [.acq 0, .wr 0, .rel 0, .acq 0, .rd 0, .rel 0, .acq 0, .rd 0, .wr 0, .rel 0]

theorem buildThread_disciplined : Disc (fun _ => 0) [] buildThread := by
  simp [buildThread, Disc]

/-- any number of such builds, any interleaving: never two simultaneous conflicting accesses -/
theorem concurrent_builds_race_free (n : Nat) (s : State)
    (hr : Reach (fun p => if p < n then ⟨[], buildThread⟩ else ⟨[], []⟩) s) : ¬ Racy s := by
  refine lockset_drf (fun _ => 0) _ s ⟨?_, ?_⟩ hr
  · intro p; by_cases hp : p < n <;> simp [hp, buildThread_disciplined, Disc]
  · intro p q l _ hl; by_cases hp : p < n <;> simp [hp] at hl

/-- concurrent default-schema builds observe what they observe alone (the order in which the lock-protected
    sections of other default builds ran does not matter): any two `DefaultInv` states give the same observations
    (`C01.step_default`: default-selection operations keep `DefaultInv`). -/
theorem default_view_confluent (a b : OpenApi.St) (ops : List OpenApi.Op) (ha : C01.DefaultInv a) (hb : C01.DefaultInv b) :
    OpenApi.observeAll a ops = OpenApi.observeAll b ops := by
  rw [C01.observeAll_of_default a ops ha, C01.observeAll_of_default b ops hb]

end Kust.C16
