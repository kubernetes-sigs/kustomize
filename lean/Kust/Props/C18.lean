/-
  C18 — `kustomize localize` is confined and all-or-nothing (local targets).
  For EVERY source file system, every kustomization tree (references of every kind, any spelling), every scope /
  destination, every index `F` of a failing mutating operation and every set `bad` of failing reads, from a state in which
  the destination does not exist and its ancestors are directories (`Pre`):
  * `writes_confined`: every Mkdir / MkdirAll / WriteFile / RemoveAll of the run targets a path at or below the
    new destination directory;
  * `source_unchanged`: whatever happens, every path outside the destination holds what it held before;
  * `all_or_nothing`: if the run fails — at any operation — and the final RemoveAll itself is not the failing
    operation, the file system is exactly what it was before: no destination is left behind.
  (`all_or_nothing` was false before the repair C18-F1 at two early error paths.)
  * `destination_faithful`: every file below the destination is a localized kustomization or a byte-identical copy
    of the source file at the mirrored path.
  The traversal is walked once, for any invariant that the single steps keep (`Kept`, `run_cases`).
  Process death inside the run (log.Fatalf / log.Panicf on a failing read at a "validated" path, findings
  C18-F2/F3, repaired) is outside the model: the fault sweep of the oracle is what looks for it.
-/
import Kust.Loc
import Kust.Lemmas.Basic
namespace Kust.C18
open Kust Loc Path

/-- what the run may rely on about the state before it starts -/
structure Pre (E : Env) (fs0 : FS) : Prop where
  /-- the destination does not exist, hence nothing below it either -/
  fresh : ∀ x, E.newDir <+: x → fs0 x = none
  /-- every proper ancestor of the destination is a directory -/
  anc : ∀ x, x <+: E.newDir → x ≠ E.newDir → fs0 x = some .dir

structure Inv (E : Env) (fs0 : FS) (s : St) : Prop where
  outside : ∀ x, ¬ E.newDir <+: x → s.fs x = fs0 x
  confined : ∀ m ∈ s.trace, E.newDir <+: m.path

/-! ### one mutation -/

/-- where a mutation can change the file system: at or below its path, or (MkdirAll) at a missing ancestor -/
theorem applyMut_changes {fs fs' : FS} {m : Mut} (h : applyMut fs m = some fs') (x : P) :
    fs' x = fs x ∨ m.path <+: x ∨ (x <+: m.path ∧ fs x = none) := by
  revert h
  fun_cases applyMut fs m <;> intro h <;> cases h <;> dsimp only [Mut.path]
  case case1 | case5 =>    -- Mkdir, WriteFile
    split
    · exact .inr (.inl (‹x = _› ▸ List.prefix_refl _))
    · exact .inl rfl
  case case3 =>            -- MkdirAll
    split
    · next hx => exact .inr (.inr ⟨List.isPrefixOf_iff_prefix.mp hx.1, hx.2⟩)
    · exact .inl rfl
  case case7 =>            -- RemoveAll
    split
    · next hx => exact .inr (.inl (List.isPrefixOf_iff_prefix.mp hx))
    · exact .inl rfl

/-- a mutation creates no file but the one it writes -/
theorem applyMut_file {fs fs' : FS} {m : Mut} (h : applyMut fs m = some fs') {x : P} {c : String}
    (hx : fs' x = some (.file c)) : fs x = some (.file c) ∨ m = .write x c := by
  revert h
  fun_cases applyMut fs m <;> intro h <;> cases h <;> dsimp only at hx
  case case5 =>            -- WriteFile
    split at hx
    · cases hx; exact .inr (by rw [‹x = _›])
    · exact .inl hx
  -- Mkdir, MkdirAll, RemoveAll: where they change anything they put a directory or nothing
  all_goals
    split at hx
    · cases hx
    · exact .inl hx

/-- the two ways `doMut` ends: the operation failed and the file system is as it was, or it was applied -/
theorem doMut_cases (F : Nat) (s : St) (m : Mut) (C : St × Bool → Prop)
    (failed : C ({ s with k := s.k + 1, trace := s.trace ++ [m] }, false))
    (applied : ∀ fs', applyMut s.fs m = some fs' → C ({ fs := fs', k := s.k + 1, trace := s.trace ++ [m] }, true)) :
    C (doMut F s m) := by
  fun_cases doMut F s m
  case case2 h => exact applied _ h   -- not the failing one, and the file system accepts it
  all_goals exact failed

theorem doMut_k (F : Nat) (s : St) (m : Mut) : (doMut F s m).1.k = s.k + 1 :=
  doMut_cases F s m (·.1.k = s.k + 1) rfl fun _ _ => rfl

theorem doMut_last (F : Nat) (s : St) (m : Mut) : (doMut F s m).1.trace.getLast? = some m :=
  doMut_cases F s m (·.1.trace.getLast? = some m) (by simp) fun _ _ => by simp

theorem doMut_fail_fs (F : Nat) (s : St) (m : Mut) : (doMut F s m).2 = false → (doMut F s m).1.fs = s.fs :=
  doMut_cases F s m (fun r => r.2 = false → r.1.fs = s.fs) (fun _ => rfl) fun _ _ h => by cases h

theorem doMut_inv {E : Env} {fs0 : FS} {F : Nat} {s : St} {m : Mut} (hp : Pre E fs0) (hi : Inv E fs0 s)
    (hm : E.newDir <+: m.path) : Inv E fs0 (doMut F s m).1 := by
  have hconf : ∀ m' ∈ s.trace ++ [m], E.newDir <+: m'.path :=
    List.forall_mem_append.mpr ⟨hi.confined, List.forall_mem_singleton.mpr hm⟩
  refine doMut_cases F s m (Inv E fs0 ·.1) ⟨hi.outside, hconf⟩ fun fs' ha => ⟨fun x hx => ?_, hconf⟩
  rcases applyMut_changes ha x with h | h | ⟨h, hnone⟩
  · exact h.trans (hi.outside x hx)
  · exact absurd (hm.trans h) hx
  · -- a missing ancestor of a path below the destination, outside the destination: there is none
    rcases List.prefix_or_prefix_of_prefix h hm with h1 | h1
    · have := hp.anc x h1 fun e => hx (e ▸ List.prefix_refl _)
      rw [← hi.outside x hx, hnone] at this
      cases this
    · exact absurd h1 hx

theorem dstOf_prefix (E : Env) (r : P) : E.newDir <+: dstOf E r := List.prefix_append _ _

/-! ### the skeleton of the run, for any invariant -/

/-- the file that `m` writes, if it writes one, is one that `W` allows -/
def Writes (W : P → String → Prop) : Mut → Prop
  | .write p c => W p c
  | _ => True

/-- an invariant `I` of the state that every step of the localizer keeps, given a condition `R` on the roots it visits
    and a condition `W` on the files it writes -/
structure Kept (E : Env) (F : Nat) (R : P → Prop) (W : P → String → Prop) (I : St → Prop) : Prop where
  op : ∀ s m, E.newDir <+: m.path → Writes W m → I s → I (doMut F s m).1
  load : ∀ s root raw d n c, R root → I s → loadFile E s.fs root raw = some (d, n, c) → W (dstOf E root ++ d ++ [n]) c
  kust : ∀ root name, R root → W (dstOf E root ++ [name]) E.kustContent
  sub : ∀ fs stack root raw r, newRoot E fs stack root raw = some r → R r

/-- `of_ite` for a property of the state a step ends in -/
theorem ite_kept {I : St → Prop} {c : Prop} [Decidable c] {a b : St × Bool} (ha : c → I a.1) (hb : ¬ c → I b.1) :
    I (if c then a else b).1 :=
  of_ite (C := fun r : St × Bool => I r.1) ha hb

section skeleton
variable {E : Env} {F : Nat} {R : P → Prop} {W : P → String → Prop} {I : St → Prop} (hk : Kept E F R W I)
include hk

theorem copyFile_kept (s : St) (root d : P) (n c : String) (hw : W (dstOf E root ++ d ++ [n]) c) (hi : I s) :
    I (copyFile E F s root d n c).1 := by
  have hd : E.newDir <+: dstOf E root ++ d := (dstOf_prefix E root).trans (List.prefix_append _ _)
  have i1 := hk.op s (.mkdirAll (dstOf E root ++ d)) hd trivial hi
  unfold copyFile
  -- the directory cannot be made, or the file is written
  exact ite_kept (fun _ => i1) fun _ => hk.op _ (.write _ c) (hd.trans (List.prefix_append _ _)) hw i1

theorem localizeRootWith_kept {rec : St → List P → P → St × Bool}
    (hr : ∀ s stack root, R root → I s → I (rec s stack root).1)
    (s : St) (stack : List P) (root : P) (raw : String) (hi : I s) : I (localizeRootWith E F rec s stack root raw).1 := by
  unfold localizeRootWith
  cases hnr : newRoot E s.fs stack root raw with
  | none => exact hi              -- the root is refused
  | some r =>
    have i1 := hk.op s (.mkdirAll (dstOf E r)) (dstOf_prefix E r) trivial hi
    -- its mirror directory cannot be made, or it is localized in turn
    exact ite_kept (fun _ => i1) fun _ => hr _ _ _ (hk.sub _ _ _ _ _ hnr) i1

theorem localizeOne_kept {rootFn : St → List P → P → String → St × Bool}
    (hr : ∀ s stack root raw, I s → I (rootFn s stack root raw).1)
    (s : St) (stack : List P) (root : P) (ref : Ref) (hR : R root) (hi : I s) :
    I (localizeOne E F rootFn s stack root ref).1 := by
  fun_cases localizeOne E F rootFn s stack root ref
  case case2 | case6 =>                                        -- the file loads and is copied
    exact copyFile_kept hk _ _ _ _ _ (hk.load _ _ _ _ _ _ hR hi ‹_›) hi
  case case5 | case7 | case8 => exact hr _ _ _ _ hi          -- the entry goes to `rootFn`
  all_goals exact hi                                           -- empty entry, or the load fails

theorem localizeRefs_kept {rootFn : St → List P → P → String → St × Bool}
    (hr : ∀ s stack root raw, I s → I (rootFn s stack root raw).1)
    (s : St) (stack : List P) (root : P) (refs : List Ref) (hR : R root) (hi : I s) :
    I (localizeRefs E F rootFn s stack root refs).1 := by
  fun_induction localizeRefs E F rootFn s stack root refs
  case case1 => exact hi
  case case2 => exact localizeOne_kept hk hr _ _ _ _ hR hi            -- the first entry fails
  case case3 ih => exact ih hR (localizeOne_kept hk hr _ _ _ _ hR hi)

theorem localize_kept (fuel : Nat) :
    ∀ (s : St) (stack : List P) (root : P), R root → I s → I (localize E F fuel s stack root).1 := by
  induction fuel with
  | zero => exact fun _ _ _ _ hi => hi
  | succ fuel ih =>
    intro s stack root hR hi
    unfold localize
    cases E.kust root with
    | none => exact hi            -- no kustomization here
    | some nr =>
      obtain ⟨name, refs⟩ := nr
      have i1 := localizeRefs_kept hk (localizeRootWith_kept hk ih) s (root :: stack) root refs hR hi
      -- it cannot be read; an entry failed; the localized kustomization is written
      exact ite_kept (fun _ => hi) fun _ => ite_kept (fun _ => i1) fun _ =>
        hk.op _ (.write _ _) ((dstOf_prefix E root).trans (List.prefix_append _ _)) (hk.kust root name hR) i1

/-- the three ways the run ends: failed before anything was created; failed and cleaned up from a state satisfying
    the invariant; succeeded in such a state -/
theorem run_cases (fs0 : FS) (fuel : Nat) (target : P) (hR : R target) (h0 : I { fs := fs0 }) (C : St × Bool → Prop)
    (untouched : ∀ s, I s → s.fs = fs0 → C (s, false))
    (cleaned : ∀ s, I s → C ((doMut F s (.removeAll E.newDir)).1, false))
    (done : ∀ s, I s → C (s, true)) : C (run E F fuel fs0 target) := by
  unfold run
  dsimp only
  have i1 := hk.op _ (.mkdir E.newDir) (List.prefix_refl _) trivial h0
  have i2 := hk.op _ (.mkdirAll (dstOf E target)) (dstOf_prefix E target) trivial i1
  have i3 := localize_kept hk fuel _ [] target hR i2
  exact
    of_ite (fun _ => untouched _ h0 rfl) fun _ =>                                      -- the destination exists already
    of_ite (fun h1 => untouched _ i1 (doMut_fail_fs F _ _ (by simpa using h1))) fun _ =>  -- it cannot be made
    of_ite (fun _ => cleaned _ i1) fun _ =>                                            -- it cannot be confirmed
    of_ite (fun _ => cleaned _ i2) fun _ =>                                            -- nor the target's mirror
    of_ite (fun _ => cleaned _ i3) fun _ => done _ i3                                  -- the traversal fails, or succeeds

theorem run_kept (fs0 : FS) (fuel : Nat) (target : P) (hR : R target) (h0 : I { fs := fs0 }) :
    I (run E F fuel fs0 target).1 :=
  run_cases hk fs0 fuel target hR h0 (I ·.1)
    (fun _ hs _ => hs) (fun s hs => hk.op s (.removeAll E.newDir) (List.prefix_refl _) trivial hs) (fun _ hs => hs)

end skeleton

/-! ### confinement and all-or-nothing -/

theorem kept_inv {E : Env} {fs0 : FS} {F : Nat} (hp : Pre E fs0) :
    Kept E F (fun _ => True) (fun _ _ => True) (Inv E fs0) where
  op _ _ hm _ hi := doMut_inv hp hi hm
  load _ _ _ _ _ _ _ _ _ := trivial
  kust _ _ _ := trivial
  sub _ _ _ _ _ _ := trivial

theorem copyFile_inv (E : Env) (fs0 : FS) (F : Nat) (s : St) (root d : P) (n c : String) (hp : Pre E fs0)
    (hi : Inv E fs0 s) : Inv E fs0 (copyFile E F s root d n c).1 :=
  copyFile_kept (kept_inv hp) s root d n c trivial hi

theorem inv_init (E : Env) (fs0 : FS) : Inv E fs0 { fs := fs0 } := ⟨fun _ _ => rfl, by simp⟩

theorem run_inv (E : Env) (fs0 : FS) (F fuel : Nat) (target : P) (hp : Pre E fs0) :
    Inv E fs0 (run E F fuel fs0 target).1 :=
  run_kept (kept_inv hp) fs0 fuel target trivial (inv_init E fs0)

/-- every mutating file-system operation of a localize run — successful or not, with any
    operation failing — addresses the destination directory or a path below it -/
theorem writes_confined (E : Env) (fs0 : FS) (F fuel : Nat) (target : P) (hp : Pre E fs0) :
    ∀ m ∈ (run E F fuel fs0 target).1.trace, E.newDir <+: m.path :=
  (run_inv E fs0 F fuel target hp).confined

/-- nothing outside the destination is modified, ever -/
theorem source_unchanged (E : Env) (fs0 : FS) (F fuel : Nat) (target : P) (hp : Pre E fs0) :
    ∀ x, ¬ E.newDir <+: x → (run E F fuel fs0 target).1.fs x = fs0 x :=
  (run_inv E fs0 F fuel target hp).outside

/-- the clean-up after a failure restores the file system, unless the clean-up is the operation that fails -/
theorem cleanup_restores {E : Env} {fs0 : FS} {F : Nat} {s : St} (hp : Pre E fs0) (hi : Inv E fs0 s) (hk : s.k ≠ F) :
    ∀ x, (doMut F s (.removeAll E.newDir)).1.fs x = fs0 x := by
  intro x
  simp only [doMut, hk, if_false, applyMut]
  split
  · next hx => exact (hp.fresh x (List.isPrefixOf_iff_prefix.mp hx)).symm
  · next hx => exact hi.outside x fun h => hx (List.isPrefixOf_iff_prefix.mpr h)

/-- the failing operation is the final RemoveAll -/
def CleanupFailed (E : Env) (F : Nat) (r : St × Bool) : Prop :=
  r.1.k = F + 1 ∧ r.1.trace.getLast? = some (.removeAll E.newDir)

/-- a failed run — whichever operation failed, injected or refused by the file system, mutating
    or reading — leaves the file system exactly as it found it, provided the final RemoveAll is not itself the
    failing operation -/
theorem all_or_nothing (E : Env) (fs0 : FS) (F fuel : Nat) (target : P) (hp : Pre E fs0)
    (hfail : (run E F fuel fs0 target).2 = false) (hc : ¬ CleanupFailed E F (run E F fuel fs0 target)) :
    ∀ x, (run E F fuel fs0 target).1.fs x = fs0 x := by
  revert hfail hc
  refine run_cases (kept_inv hp) fs0 fuel target trivial (inv_init E fs0)
    (fun r => r.2 = false → ¬ CleanupFailed E F r → ∀ x, r.1.fs x = fs0 x) ?_ ?_ ?_
  · intro s _ h _ _ x; rw [h]
  · intro s hs _ hc
    exact cleanup_restores hp hs fun hk => hc ⟨by rw [doMut_k, hk], doMut_last F s _⟩
  · intro s _ h; cases h

/-! ### the destination holds only faithful copies -/

/-- what a file below the destination may be: the localized kustomization of a root, or a byte-identical copy of
    the source file at the mirrored path -/
def Faithful (E : Env) (fs0 : FS) (x : P) (c : String) : Prop :=
  c = E.kustContent ∨ ∃ p, E.scope <+: p ∧ x = E.newDir ++ p.drop E.scope.length ∧ fs0 p = some (.file c)

structure Faith (E : Env) (fs0 : FS) (s : St) : Prop where
  files : ∀ x c, E.newDir <+: x → s.fs x = some (.file c) → Faithful E fs0 x c
  destDir : ∀ c, s.fs E.newDir ≠ some (.file c)

/-- below a destination that does not exist yet there is no file -/
theorem faith_init {E : Env} {fs0 : FS} (hp : Pre E fs0) : Faith E fs0 { fs := fs0 } where
  files x c hx h := by cases (hp.fresh x hx).symm.trans h
  destDir c h := by cases (hp.fresh _ (List.prefix_refl _)).symm.trans h

theorem doMut_faith {E : Env} {fs0 : FS} {F : Nat} {s : St} {m : Mut} (hf : Faith E fs0 s)
    (hw : Writes (fun p c => p ≠ E.newDir ∧ Faithful E fs0 p c) m) : Faith E fs0 (doMut F s m).1 := by
  refine doMut_cases F s m (Faith E fs0 ·.1) ⟨hf.files, hf.destDir⟩ fun fs' ha => ⟨fun x c hx h => ?_, fun c h => ?_⟩
  · rcases applyMut_file ha h with h | rfl
    · exact hf.files x c hx h
    · exact hw.2
  · rcases applyMut_file ha h with h | rfl
    · exact hf.destDir c h
    · exact hw.1 rfl

theorem append_singleton_ne (a b : P) (n : String) : a ++ b ++ [n] ≠ a := by
  intro h
  have := congrArg List.length h
  simp at this

/-- `loadFileAt` accepts `p` only as a file `root ++ d ++ [n]` whose directory is not at or below the destination -/
theorem loadFileAt_spec {E : Env} {fs : FS} {root p d : P} {n c : String} (h : loadFileAt E fs root p = some (d, n, c)) :
    p = root ++ d ++ [n] ∧ fs p = some (.file c) ∧ ¬ E.newDir <+: root ++ d := by
  revert h
  fun_cases loadFileAt E fs root p <;> intro h
  case case3 hfile hcond _ dr hrev =>   -- the one accepting branch
    cases h
    have hp : p = root ++ dr.reverse ++ [n] := by
      rw [List.append_assoc, ← List.reverse_eq_cons_iff.mp hrev,
        List.prefix_iff_eq_append.mp (List.isPrefixOf_iff_prefix.mp hcond.1)]
    refine ⟨hp, hfile, fun hnd => ?_⟩
    rw [hp, List.dropLast_concat, List.isPrefixOf_iff_prefix.mpr hnd] at hcond
    cases hcond.2
  all_goals cases h

theorem faithful_of_load {E : Env} {fs0 : FS} {s : St} {root d : P} {n c raw : String}
    (hsc : E.scope <+: root) (hi : Inv E fs0 s) (hf : Faith E fs0 s)
    (h : loadFile E s.fs root raw = some (d, n, c)) : Faithful E fs0 (dstOf E root ++ d ++ [n]) c := by
  obtain ⟨hp, h1, h2⟩ := loadFileAt_spec h
  rw [hp] at h1
  -- the file is outside the destination: its directory is, and it is not the destination itself
  have hout : ¬ E.newDir <+: root ++ d ++ [n] := fun hpre =>
    (List.prefix_concat_iff.mp hpre).elim (fun e => hf.destDir c (e ▸ h1)) h2
  refine .inr ⟨root ++ d ++ [n], ?_, ?_, (hi.outside _ hout).symm.trans h1⟩
  · exact hsc.trans ((List.prefix_append _ _).trans (List.prefix_append _ _))
  · obtain ⟨t, rfl⟩ := hsc
    simp [dstOf, List.append_assoc]

theorem newRoot_scope {E : Env} {fs : FS} {stack : List P} {root r : P} {raw : String}
    (h : newRoot E fs stack root raw = some r) : E.scope <+: r := by
  revert h
  fun_cases newRoot E fs stack root raw <;> intro h
  case case3 hc => exact Option.some.inj h ▸ List.isPrefixOf_iff_prefix.mp hc.2.2.1   -- the accepting branch
  all_goals cases h

theorem kept_both {E : Env} {fs0 : FS} {F : Nat} (hp : Pre E fs0) :
    Kept E F (E.scope <+: ·) (fun p c => p ≠ E.newDir ∧ Faithful E fs0 p c) (fun s => Inv E fs0 s ∧ Faith E fs0 s) where
  op _ _ hm hw hb := ⟨doMut_inv hp hb.1 hm, doMut_faith hb.2 hw⟩
  load _ _ _ _ _ _ hsc hb hl :=
    ⟨by rw [dstOf, List.append_assoc E.newDir]; exact append_singleton_ne _ _ _,
      faithful_of_load hsc hb.1 hb.2 hl⟩
  kust _ _ _ := ⟨append_singleton_ne _ _ _, .inl rfl⟩
  sub _ _ _ _ _ := newRoot_scope

/-- whatever the run did — complete, failed or interrupted by a failing operation —
    every file below the destination is either the localized kustomization file of a root or a byte-identical copy
    of the source file at the mirrored path inside the scope.  (With `source_unchanged` this is the file-level half
    of build equivalence; that every reference is present is the other half, sampled by the oracle.) -/
theorem destination_faithful (E : Env) (fs0 : FS) (F fuel : Nat) (target : P) (hp : Pre E fs0)
    (hsc : E.scope <+: target) :
    ∀ x c, E.newDir <+: x → (run E F fuel fs0 target).1.fs x = some (.file c) → Faithful E fs0 x c :=
  (run_kept (kept_both hp) fs0 fuel target hsc ⟨inv_init E fs0, faith_init hp⟩).2.files

/-! ### a concrete run (non-vacuity): the hypotheses hold and every outcome occurs -/

def exFs : FS := fun x =>
  if x = [] ∨ x = ["s"] ∨ x = ["s", "app"] ∨ x = ["s", "lib"] then some .dir
  else if x = ["s", "app", "kustomization.yaml"] then some (.file "K")
  else if x = ["s", "app", "dep.yaml"] then some (.file "D")
  else if x = ["s", "lib", "kustomization.yaml"] then some (.file "K2")
  else if x = ["s", "lib", "l.yaml"] then some (.file "L")
  else none

def exEnv : Env :=
  { scope := ["s"], newDir := ["out"],
    kust := fun r =>
      if r = ["s", "app"] then some ("kustomization.yaml", [.res "./dep.yaml", .res "../lib"])
      else if r = ["s", "lib"] then some ("kustomization.yaml", [.file "l.yaml"])
      else none,
    isRes := fun c => c = "D", bad := fun _ => false }

theorem exPre : Pre exEnv exFs := by
  constructor
  · intro x hx
    obtain ⟨t, rfl⟩ := hx
    simp [exEnv, exFs]
  · intro x hx hne
    -- the only proper prefix of `["out"]` is the root
    rcases List.prefix_cons_iff.mp hx with rfl | ⟨t, rfl, ht⟩
    · exact if_pos (.inl rfl)
    · cases List.prefix_nil.mp ht
      exact absurd rfl hne

/-- the fault-free run succeeds and mirrors both roots; a failure at the 5th mutating operation is cleaned up -/
example :
    (run exEnv 1000 8 exFs ["s", "app"]).2 = true ∧
    (run exEnv 1000 8 exFs ["s", "app"]).1.fs ["out", "lib", "l.yaml"] = some (.file "L") ∧
    (run exEnv 1000 8 exFs ["s", "app"]).1.fs ["out", "app", "dep.yaml"] = some (.file "D") ∧
    (run exEnv 4 8 exFs ["s", "app"]).2 = false ∧
    (run exEnv 4 8 exFs ["s", "app"]).1.fs ["out"] = none ∧
    (run exEnv 4 8 exFs ["s", "app"]).1.trace.getLast? = some (.removeAll ["out"]) := by
  decide +kernel

end Kust.C18
