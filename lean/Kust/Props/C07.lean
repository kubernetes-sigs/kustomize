/-
  C07 — output is well-formed, identity-unique, free of bookkeeping.
  (a) ids: any resource map built by successful `Append`s is pairwise non-`Equals` (unbounded size);
  (b) kind/name: the renaming transformers keep every resource named (invariant `Good`), hence `PrevIds` cannot
      panic and no output lacks a name — under the explicit hypothesis that the resource is named when it enters
      (load-time `GetValidatedMetadata`); the excluded point (a patch removing metadata.name) is finding C12-K1;
  (c) bookkeeping: stripping with the REGENERATED `buildAnnotations` list removes exactly the listed keys, and every
      annotation-key constant the translator finds in the build code is in the stripped set or in the reviewed list
      of user-facing keys (checked on the regenerated tables: a newly introduced internal annotation fails here).
  The read-back of the emitted stream is `C13.emit_read_back` (Props/C13); the byte-level fixpoint is the oracle's.
-/
import Kust.Lemmas.Res
import Kust.Gen.Lists
import Kust.Gen.Facts
namespace Kust.C07
open Kust Res

/-- (a) a map built by successful `Append`s has pairwise non-`Equals` ids -/
theorem out_ids_unique (cs : Gvk → Bool) (rs m : List ResId) (h : appendAll cs [] rs = .ok m) :
    IdsUnique cs m := appendAll_unique cs rs [] m List.Pairwise.nil h

/-- (a') a duplicate is always refused -/
theorem append_refuses_duplicate (cs : Gvk → Bool) (m : List ResId) (r x : ResId) (hx : x ∈ m)
    (he : idEquals cs x r = true) : append cs m r = .err "conflict" :=
  if_pos (List.any_eq_true.mpr ⟨x, hx, he⟩)

/-- (b) a named, aligned resource stays named and aligned through any number of layers of
    namespace / prefix / suffix directives (what is stated: name and kind are not empty; no panic: `renaming_never_panics`). -/
theorem out_has_kind_name (cs : Gvk → Bool) (skip : String → Bool) (ls : List Layer) (r r' : R)
    (h : r.Good) (he : layers cs skip ls r = .ok r') : r'.name ≠ "" ∧ r'.gvk.kind ≠ "" :=
  (layers_good he h).2

theorem renaming_never_panics (cs : Gvk → Bool) (skip : String → Bool) (ls : List Layer) (r : R) (h : r.Good) :
    (layers cs skip ls r).isPanic = false := layers_no_panic cs skip ls r h

/-- the hypotheses are satisfiable by a non-trivial resource (non-vacuity) -/
example : ({ gvk := ⟨"apps", "v1", "Deployment"⟩, name := "web", ns := "" } : R).Good := by
  refine ⟨⟨rfl, rfl⟩, ?_, ?_⟩ <;> simp

/-- (c) `RemoveBuildAnnotations` + origin/transformer removal, on the annotation map as an association list -/
def strip (stripped : List String) (annos : List (String × String)) : List (String × String) :=
  annos.filter fun kv => !stripped.contains kv.1

theorem strip_removes (stripped : List String) (annos : List (String × String)) (k v : String)
    (hk : k ∈ stripped) : (k, v) ∉ strip stripped annos := by
  simp [strip, List.mem_filter, hk]

theorem strip_keeps (stripped : List String) (annos : List (String × String)) (k v : String)
    (hk : k ∉ stripped) (h : (k, v) ∈ annos) : (k, v) ∈ strip stripped annos := by
  simp [strip, List.mem_filter, hk, h]

/-- **stripping is a fixpoint**: a second pass removes nothing (the fixpoint clause of the property, at the annotation level) -/
theorem strip_idem (stripped : List String) (annos : List (String × String)) :
    strip stripped (strip stripped annos) = strip stripped annos := by
  simp [strip, List.filter_filter]

/-- stripping only removes: what is left is a sub-list of the input, in the input's order -/
theorem strip_sublist (stripped : List String) (annos : List (String × String)) :
    (strip stripped annos).Sublist annos := by
  simp [strip]

/-- **free of bookkeeping**: after the strip no key of the stripped list is left, whatever the annotations were -/
theorem strip_clean (stripped : List String) (annos : List (String × String)) :
    ∀ kv ∈ strip stripped annos, kv.1 ∉ stripped := by
  simp [strip]

/-- annotations that carry no bookkeeping key pass through unchanged -/
theorem strip_id_of_clean (stripped : List String) (annos : List (String × String))
    (h : ∀ kv ∈ annos, kv.1 ∉ stripped) : strip stripped annos = annos := by
  simp only [strip, List.filter_eq_self]
  intro kv hkv
  simp [h kv hkv]

/-- keys removed at the end of `Kustomizer.Run` when no build metadata is requested -/
def strippedKeys : List String :=
  Gen.buildAnnotations ++ ["config.kubernetes.io/origin", "alpha.config.kubernetes.io/transformations"]

/-- keys that are user-facing configuration, not bookkeeping (reviewed list) -/
def userFacingKeys : List String :=
  ["config.kubernetes.io/local-config", "config.kubernetes.io/function", "config.k8s.io/function",
   "config.kubernetes.io/formatting", "kustomize.config.k8s.io/behavior", "kustomize.config.k8s.io/needs-hash",
   "config.kubernetes.io/merge-source", "kustomize.config.k8s.io/id",
   -- apiVersion strings, not annotation keys:
   "config.kubernetes.io/v1", "kustomize.config.k8s.io/v1alpha1", "kustomize.config.k8s.io/v1beta1"]

/-- **every annotation-key constant of the build code is stripped or reviewed as user-facing**
    (`Gen.annotationKeyConsts` is regenerated from the source on every run). -/
theorem annotation_keys_covered :
    Gen.annotationKeyConsts.all (fun k => strippedKeys.contains k || userFacingKeys.contains k) = true := by
  -- a key is found where it stands (`eq_self`); no two different keys are ever compared
  simp only [Gen.annotationKeyConsts, strippedKeys, userFacingKeys, Gen.buildAnnotations, List.all_cons, List.all_nil,
    List.contains_eq_mem, List.cons_append, List.nil_append, List.mem_cons, eq_self, or_true, true_or, decide_true,
    Bool.or_true, Bool.true_or, Bool.and_true]

/-- the stripped list still contains the bookkeeping keys the renaming model relies on -/
theorem core_keys_stripped :
    ["internal.config.kubernetes.io/previousKinds", "internal.config.kubernetes.io/previousNames",
     "internal.config.kubernetes.io/previousNamespaces", "internal.config.kubernetes.io/prefixes",
     "internal.config.kubernetes.io/suffixes", "internal.config.kubernetes.io/refBy",
     "internal.config.kubernetes.io/generatorBehavior", "internal.config.kubernetes.io/needsHashSuffix",
     "internal.config.kubernetes.io/allowNameChange", "internal.config.kubernetes.io/allowKindChange",
     "config.kubernetes.io/path", "config.kubernetes.io/index", "internal.config.kubernetes.io/path",
     "internal.config.kubernetes.io/index", "internal.config.kubernetes.io/seqindent", "internal.config.kubernetes.io/id",
     "config.k8s.io/id"].all (fun k => Gen.buildAnnotations.contains k) = true := by
  simp only [Gen.buildAnnotations, List.all_cons, List.all_nil, List.contains_eq_mem, List.mem_cons, eq_self,
    or_true, true_or, decide_true, Bool.and_true]

end Kust.C07
