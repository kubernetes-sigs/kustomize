/-
  C14 (put-get with creation, field-spec filter) — "a field-spec path … with create: after the write, the path resolves to
  the written value".  Theorem about `Kust.FieldSpec.filter` with creation of a scalar along a path of plain field names
  through mappings; tied by the correspondences `fieldspec.apply` and `ns.filter`.
-/
import Kust.Lemmas.NsFilter
namespace Kust.C14
open Kust Node Fns NsFilter

/-- a plain path segment: no `[]` hint, not empty, survives cleaning, is classified as a field -/
structure PlainSeg (seg : String) : Prop where
  noHint : FieldSpec.seqField seg = (seg, false)
  nonEmpty : seg ≠ ""
  plain : Plain seg
  field : classify (trimSpace seg) = .ok (.field seg)

/-- read along field names -/
def getP : List String → Node → Option Node
  | [], n => some n
  | k :: r, .map _ fs => (fieldGet k fs).bind (getP r)
  | _ :: _, _ => none

/-- the document is made of mappings along the part of the path that exists -/
def MapsAlong : List String → Node → Prop
  | [], _ => True
  | [_], .map _ _ => True
  | k :: k2 :: r, .map _ fs =>
    match fieldGet k fs with
    | none => True
    | some x => (∃ s' fs', x = .map s' fs') ∧ MapsAlong (k2 :: r) x
  | _ :: _, _ => False

/-- `PlainSeg` says what `C02.Plain` says: its `field` clause follows from the others, a clean name being its own
    trimming -/
theorem plainSeg_iff {seg : String} : PlainSeg seg ↔ C02.Plain seg :=
  ⟨fun h => ⟨h.noHint, h.plain.clean, h.plain.field, h.nonEmpty⟩,
   fun h => ⟨h.1, h.2.2.2, .of_segment h, by rw [FieldSpec.trimSpace_of_clean h.2.1]; exact h.2.2.1⟩⟩

/-- put-get with creation, as the induction proves it: the run has succeeded, so the fuel was enough, and the empty
    path (where the setter runs on the document itself) needs no exception -/
theorem filter_create_get_of_ok (q : String → Bool) (set : Node → Out Node) (tag : String) :
    ∀ (path : List String), (∀ seg ∈ path, PlainSeg seg) → ∀ (doc doc' : Node) (f : Nat),
      MapsAlong path doc → FieldSpec.filter q set true ⟨1, tag⟩ f path doc = .ok doc' →
      ∃ n0 v, set n0 = .ok v ∧ getP path doc' = some v := by
  intro path
  induction path with
  | nil =>
    intro _ doc doc' f _ h
    cases f with
    | zero => cases h
    | succ f => exact ⟨doc, doc', by rwa [FieldSpec.filter_nil] at h, rfl⟩
  | cons k r ih =>
    intro hall doc doc' f hm h
    cases f with
    | zero => cases h
    | succ f =>
      obtain ⟨s, fs, rfl⟩ : ∃ s fs, doc = .map s fs := by
        cases doc <;> cases r <;> simp [MapsAlong] at hm ⊢
      -- the step descends into the field or into a fresh node, and puts the result back under `k` …
      rw [FieldSpec.filter_map_create (plainSeg_iff.1 (hall k (by simp))) (by simp)] at h
      obtain ⟨x', hx, h⟩ := Out.bind_eq_ok.1 h
      cases h
      -- … so reading `k :: r` in the result is reading `r` in what came back
      simp only [getP, fieldGet_put_same, Option.bind_some]
      refine ih (fun seg hseg => hall seg (by simp [hseg])) _ x' f ?_ hx
      -- what the step descends into is again made of mappings along the rest of the path
      cases r with
      | nil => trivial
      | cons k2 r' =>
        rw [FieldSpec.stepMode_mid (by simp)]
        cases hg : fieldGet k fs with
        | none => cases r' <;> simp [MapsAlong, FieldSpec.retype, emptyOfKind]
        | some x =>
          simp only [MapsAlong, hg] at hm
          obtain ⟨⟨s', fs', rfl⟩, hm'⟩ := hm
          simpa [FieldSpec.retype] using hm'

/-- **put-get with creation**: for every path of plain field names, every document made of mappings along the existing
    part of the path and every setter — when the filter with `create` returns, reading the path in the result yields a
    value the setter returned for some node (the statement does not say for which: in the run it is the existing field,
    or a fresh empty scalar below freshly created mappings) -/
theorem filter_create_get (q : String → Bool) (set : Node → Out Node) (tag : String) :
    ∀ (path : List String), path ≠ [] → (∀ seg ∈ path, PlainSeg seg) → ∀ (doc doc' : Node) (f : Nat), f ≥ path.length + 1 →
      MapsAlong path doc → FieldSpec.filter q set true ⟨1, tag⟩ f path doc = .ok doc' →
      ∃ n0 v, set n0 = .ok v ∧ getP path doc' = some v :=
  fun path _ hall doc doc' f _ => filter_create_get_of_ok q set tag path hall doc doc' f

theorem plainSeg_of_ident {cs : List Char} (h : Str.identL cs = true) : PlainSeg (String.ofList cs) :=
  plainSeg_iff.2 (C02.plain_of_ident h)

/-- the premises are satisfiable: `metadata`, `namespace`, `spec`, `replicas` are plain segments … -/
theorem plainSeg_examples : PlainSeg "metadata" ∧ PlainSeg "namespace" ∧ PlainSeg "spec" ∧ PlainSeg "replicas" := by
  refine ⟨plainSeg_iff.2 segment_metadata, plainSeg_iff.2 segment_namespace, ?_, ?_⟩ <;> (apply plainSeg_of_ident; rfl)

/-- … and creation through two absent levels is exercised -/
example : FieldSpec.filter (fun _ => false) (fun _ => .ok (.scalar "!!str" "prod" 0)) true ⟨1, ""⟩ 5 ["metadata", "namespace"]
    (.map 0 [("kind", .scalar "!!str" "X" 0)])
    = .ok (.map 0 [("kind", .scalar "!!str" "X" 0), ("metadata", .map 0 [("namespace", .scalar "!!str" "prod" 0)])]) := by decide +kernel

end Kust.C14
