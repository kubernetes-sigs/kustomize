/-
  C09 — the namespace directive moves every namespaced resource and nothing else.
  Model: `Res.nsStep` (NamespaceTransformer on one resource), `Res.layers` (layer chain), and the collision
  re-check of `NamespaceTransformerPlugin.Transform` (`nsAll`).  `cs` = IsCertainlyClusterScoped, a parameter
  (regenerated scope table ⊕ schema view; unknown kinds are not cluster-scoped).  The filter on resource TREES (metadata
  pass, role-binding subjects) is in C09b; `C02.namespace_kept` (Props/C02c: a patch never changes the namespace) is a
  claim of this property too.
-/
import Kust.Lemmas.Res
import Kust.Gen.Lists
namespace Kust.C09
open Kust Res

/-- after the transformer with `N ≠ ""` a not-cluster-scoped resource is in `N`,
    a cluster-scoped one keeps whatever (no) namespace it had. -/
theorem ns_total (cs : Gvk → Bool) (n : String) (r : R) (hn : n ≠ "") :
    (cs r.gvk = false → (nsStep cs n r).ns = n) ∧ (cs r.gvk = true → (nsStep cs n r).ns = r.ns) := by
  constructor <;> intro h <;> simp [hn, h]  -- by the closed form `nsStep_ns`

/-- an empty directive changes nothing -/
theorem ns_empty_noop (cs : Gvk → Bool) (r : R) : nsStep cs "" r = r := nsStep_empty cs r

/-- the namespace the outermost (last) non-empty directive of a chain prescribes -/
def outermostNs : List Layer → String → String
  | [], ns => ns
  | l :: ls, ns => outermostNs ls (if l.ns = "" then ns else l.ns)

/-- through any chain of layers a not-cluster-scoped resource ends in the namespace of the
    outermost directive on its chain (its own namespace if no layer has a directive); a cluster-scoped one is
    never given a namespace by the chain. -/
theorem ns_outermost_wins (cs : Gvk → Bool) (skip : String → Bool) :
    ∀ (ls : List Layer) (r r' : R), layers cs skip ls r = .ok r' →
      (cs r.gvk = false → r'.ns = outermostNs ls r.ns) ∧ (cs r.gvk = true → r'.ns = r.ns) := by
  intro ls r r' he
  fun_induction layers cs skip ls r with
  | case1 => cases he; exact ⟨fun _ => rfl, fun _ => rfl⟩
  | case2 l ls r r1 h1 ih =>
    have ih := ih he
    -- the layer keeps the kind, and only its namespace step writes the namespace
    rw [(layerStep_renamed h1).gvk, layerStep_ns h1, nsStep_ns] at ih
    constructor <;> intro hc
    · simpa [outermostNs, hc] using ih.1 hc
    · simpa [hc] using ih.2 hc
  | case3 | case4 => cases he

/-! ### the collision re-check -/

/-- `Transform` over the whole map, on ids: each resource is moved in turn and the map must then contain exactly
    one resource `Equals` to it (the moved ones, itself, and the not-yet-moved ones are all looked at). -/
def nsAll (cs : Gvk → Bool) (move : ResId → ResId) : List ResId → List ResId → Out (List ResId)
  | done, [] => .ok done
  | done, r :: rest =>
    let r' := move r
    if ((done ++ [r'] ++ rest).filter (fun x => idEquals cs x r')).length = 1 then
      nsAll cs move (done ++ [r']) rest
    else .err "namespace transformation produces ID conflict"

/-- a successful pass returns the moved resources, all of them and in order, and they are pairwise distinct:
    at each step exactly one of `done ++ [move r] ++ rest` equals `move r`, which is `move r` itself, so none of
    `done` does -/
theorem nsAll_ok (cs : Gvk → Bool) (move : ResId → ResId) (todo done out : List ResId) (hu : IdsUnique cs done)
    (h : nsAll cs move done todo = .ok out) : IdsUnique cs out ∧ out = done ++ todo.map move := by
  fun_induction nsAll cs move done todo with
  | case1 done => cases h; exact ⟨hu, by simp⟩
  | case2 done r rest r' hc ih =>
    simp only [List.filter_append, List.filter_cons, List.filter_nil, r', idEquals_refl, if_true, List.length_append,
      List.length_cons] at hc
    have hnone : done.filter (fun x => idEquals cs x (move r)) = [] := List.length_eq_zero_iff.mp (by omega)
    obtain ⟨q1, q2⟩ := ih (hu.snoc fun a ha => Bool.eq_false_iff.mpr (List.filter_eq_nil_iff.mp hnone a ha)) h
    exact ⟨q1, by simp [q2, r']⟩
  | case3 => cases h

/-- if the transformer succeeds, the moved resources are pairwise distinct —
    colliding resources are never silently merged or dropped (the list keeps its length, too). -/
theorem ns_collision_is_error (cs : Gvk → Bool) (move : ResId → ResId) :
    ∀ (todo done out : List ResId), IdsUnique cs done → nsAll cs move done todo = .ok out →
      IdsUnique cs out ∧ out.length = done.length + todo.length :=
  fun todo done out hu h => by
    obtain ⟨q1, rfl⟩ := nsAll_ok cs move todo done out hu h
    exact ⟨q1, by simp⟩

/-- T-gen: the regenerated scope table lists no (apiVersion, kind) twice with different scope. -/
theorem scope_table_sane :
    Gen.scopeTable.all (fun e => Gen.scopeTable.all (fun f =>
      !(e.1 == f.1 && e.2.1 == f.2.1) || e.2.2 == f.2.2)) = true := by decide +kernel

/-- T-gen: the kinds the property names as cluster-scoped are cluster-scoped in the regenerated table, the
    workload/config kinds are namespaced. -/
theorem scope_table_expected :
    ([("v1", "Namespace", false), ("rbac.authorization.k8s.io/v1", "ClusterRole", false),
      ("rbac.authorization.k8s.io/v1", "ClusterRoleBinding", false),
      ("apiextensions.k8s.io/v1", "CustomResourceDefinition", false), ("v1", "PersistentVolume", false),
      ("apps/v1", "Deployment", true), ("v1", "ConfigMap", true), ("v1", "Secret", true), ("v1", "Service", true),
      ("v1", "ServiceAccount", true), ("rbac.authorization.k8s.io/v1", "RoleBinding", true),
      ("batch/v1", "CronJob", true)] : List (String × String × Bool)).all
        (fun e => Gen.scopeTable.contains e) = true := by decide +kernel

end Kust.C09
