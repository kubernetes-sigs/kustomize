/-
  C08 — labels reach metadata, selectors and templates consistently.
  (a) kernel evaluation over the REGENERATED tables: for every workload kind a selector location in `commonLabels` comes with
      the pod-template location of the same kind (created if absent) — so whatever is added to a selector is added
      to the template; a `labels` entry without `includeSelectors` gets a field-spec list with no selector path
      (`labelFieldSpecs`, a specification local to this file; the configurator itself is modelled by
      `Labels.entrySpecs`, C08b).  A path literal is evaluated on characters, see `Lemmas/Str.lean`.
  (b) label maps: the label filter is dictionary override (`GenMap.over`, the model of mergeStringMaps / SetEntry per
      key); adding the same labels on both sides preserves "selector ⊆ pod labels", hence who-selects-whom.
-/
import Kust.GenMap
import Kust.Lemmas.Str
import Kust.Props.C06
import Kust.Gen.FieldSpecs
namespace Kust.C08
open Kust GenMap Gen

def isSelectorPath (p : String) : Bool :=
  (Str.splitChar '/' p).any fun s => s = "selector" || s = "matchLabels" || s = "podSelector" || s = "labelSelector"

/-- the field specs a `labels` entry is applied with under the default transformer configuration, as a plain list: the
    configurator itself (`Labels.entrySpecs`, Props/C08b) builds it with `MergeOne`, which drops a repeated spec -/
def labelFieldSpecs (includeSelectors includeTemplates : Bool) : List FieldSpec :=
  if includeSelectors then commonLabelsSpecs
  else (if includeTemplates then templateLabelsSpecs else []) ++ [⟨"", "", "", "metadata/labels", true⟩]

theorem isSelectorPath_ofList (cs : List Char) :
    isSelectorPath (String.ofList cs) = (Str.splitChar.go '/' cs []).any
      fun s => s = "selector" || s = "matchLabels" || s = "podSelector" || s = "labelSelector" := by
  rw [isSelectorPath, Str.splitChar_ofList]

/-- a `labels` entry without `includeSelectors` is applied with field specs none of which names a selector location -/
theorem no_selectors_without_flag (t : Bool) :
    (labelFieldSpecs false t).all (fun f => !isSelectorPath f.path) = true := by
  cases t <;>
    simp only [labelFieldSpecs, templateLabelsSpecs, Bool.false_eq_true, if_false, if_true, List.nil_append,
      List.cons_append, List.all_cons, List.all_nil, Bool.and_true, Bool.and_eq_true] <;>
    and_intros <;> (rw [isSelectorPath_ofList]; decide +kernel)

def hasSpec (specs : List FieldSpec) (kind path : String) (create : Bool) : Bool :=
  specs.any fun f => f.kind == kind && f.path == path && f.create == create

/-- each workload kind's selector location is listed together with its pod-template label
    location, and the template location is created when absent. -/
theorem tables_pair_up :
    ([("Deployment", "spec/selector/matchLabels", "spec/template/metadata/labels"),
      ("ReplicaSet", "spec/selector/matchLabels", "spec/template/metadata/labels"),
      ("DaemonSet", "spec/selector/matchLabels", "spec/template/metadata/labels"),
      ("StatefulSet", "spec/selector/matchLabels", "spec/template/metadata/labels"),
      ("ReplicationController", "spec/selector", "spec/template/metadata/labels"),
      ("Job", "spec/selector/matchLabels", "spec/template/metadata/labels"),
      ("CronJob", "spec/jobTemplate/spec/selector/matchLabels", "spec/jobTemplate/spec/template/metadata/labels")]
      : List (String × String × String)).all
      (fun e => commonLabelsSpecs.any (fun f => f.kind == e.1 && f.path == e.2.1) &&
                hasSpec commonLabelsSpecs e.1 e.2.2 true) = true := by decide +kernel

/-- metadata labels are always written, for every kind -/
theorem metadata_labels_everywhere :
    hasSpec commonLabelsSpecs "" "metadata/labels" true = true ∧
    hasSpec templateLabelsSpecs "" "metadata/labels" true = true := by decide +kernel

/-- selecting objects keep their selector locations in the table (Service, NetworkPolicy, PodDisruptionBudget) -/
theorem selecting_kinds_present :
    commonLabelsSpecs.any (fun f => f.kind == "Service" && f.path == "spec/selector") = true ∧
    commonLabelsSpecs.any (fun f => f.kind == "NetworkPolicy" && f.path == "spec/podSelector/matchLabels") = true ∧
    commonLabelsSpecs.any (fun f => f.kind == "PodDisruptionBudget" && f.path == "spec/selector/matchLabels") = true := by
  decide +kernel

/-! ### label maps -/

/-- `sel` selects `labels`: every selector entry is present with the same value -/
def Selects (sel labels : Dict) : Prop := ∀ k v, dget k sel = some v → dget k labels = some v

/-- adding the same label set `L` to a selector and to the
    labels it selected keeps the selection — for selectors and templates of one workload, and for a Service and
    the workload it selected, under the same label directives. -/
theorem selection_preserved (sel labels L : Dict) (h : Selects sel labels) :
    Selects (over sel L) (over labels L) := by
  intro k v
  rw [C06.over_get, C06.over_get]
  -- a key of `L` reads `L`'s value on both sides; any other key reads what it read before
  cases dget k L with
  | some x => exact id
  | none => exact h k v

/-- every added label is present afterwards with the directive's value -/
theorem labels_present (m L : Dict) (k v : String) (h : dget k L = some v) : dget k (over m L) = some v := by
  rw [C06.over_get]; simp [h]

/-- labels the directive does not mention are untouched -/
theorem labels_frame (m L : Dict) (k : String) (h : dget k L = none) : dget k (over m L) = dget k m := by
  rw [C06.over_get]; simp [h]

/-- several layers: the union of the directives, outer layers overriding inner ones, still preserves selection -/
theorem selection_preserved_layers (sel labels : Dict) (Ls : List Dict) (h : Selects sel labels) :
    Selects (Ls.foldl over sel) (Ls.foldl over labels) := by
  induction Ls generalizing sel labels with
  | nil => exact h
  | cons L r ih => exact ih _ _ (selection_preserved sel labels L h)

end Kust.C08
