/-
  C02 (variable clause) — text that uses no variable syntax passes through the variable expansion unchanged; with no
  variable declared (every reference maps to itself) the ONLY thing the expansion would do to a string is to
  un-escape `$$` — which is why `ResolveVars` must not run at all when there are no vars (it does not: the
  correspondence `refvar.expand` ties the model to `refvar.DoReplacements`, and the whole-build oracle feeds
  variable-looking text through builds without `vars`).
-/
import Kust.RefVar
namespace Kust.C02
open Kust Kust.RefVar

/-- a string without `$` is left exactly as it is, whatever the mapping -/
theorem expand_no_dollar (mapping : String → String) (n : Nat) (cs : List Char) (h : '$' ∉ cs) :
    expandL mapping n cs = cs := by
  fun_induction expandL mapping n cs with
  | case1 | case2 => rfl  -- out of fuel, or at the end of the text
  | case3 | case4 | case5 | case6 | case7 => exact absurd List.mem_cons_self h  -- the text begins with `$`
  | case8 _ c rest _ _ _ _ ih => rw [ih fun hm => h (List.mem_cons_of_mem _ hm)]  -- any other character is copied

theorem text_without_dollar_untouched (mapping : String → String) (s : String) (h : '$' ∉ s.toList) :
    doReplacements mapping s = .text s := by
  unfold doReplacements doReplL
  split
  · next heq => rw [heq] at h; simp at h  -- the text begins with `$(`
  · rw [expand_no_dollar mapping _ _ h, String.ofList_toList]

/-- the premises are satisfiable; and what the expansion does otherwise -/
example :
    let m : String → String := fun k => if k = "POD" then "web-0" else "$(" ++ k ++ ")"
    doReplacements m "name=$(POD);cost=$$5;$(OTHER);$x" = .text "name=web-0;cost=$5;$(OTHER);$x" ∧
    doReplacements m "$(POD)" = .whole "POD" ∧
    doReplacements m "plain text" = .text "plain text" ∧
    doReplacements m "$$(POD)" = .text "$(POD)" := by decide +kernel

end Kust.C02
