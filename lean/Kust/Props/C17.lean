/-
  C17 — `kustomize edit` changes exactly what the sub-command says.
  File level (Kust.Kustfile), for EVERY file text and every rendering `mf` of the typed fields:
  * `comments_kept`: the comment/blank lines of the file, in their order, are exactly the comment pieces of the
    rewritten file — none is lost (this is the theorem that was false before the repair C17-F1: the comments
    after the last field were dropped);
  * `fields_out_perm`: every field of the marshalling order is written exactly once, the fields that were in the
    file first and in their original order (`orig_order_kept`).
  Typed level (Kust.Edit), for every state and every argument list:
  * `frame`: a command changes nothing but the field it addresses (and the load-time normalisation);
    `runOps_get`: so a reading of the state that sees neither is the same after every sequence of commands that do
    not address what it reads (`namespace_untouched`, `patches_untouched`, `commonLabels_untouched`);
  * `set_namespace_idem`, `mapSet_idem`: `set namespace` and the map update behind `set label` / `set annotation`
    are idempotent;
  * `add_remove_resource`, `add_remove_map`: an `add` followed by the matching `remove` restores the content;
  * `mapGet_*`: inside a label / annotation map, `set`, `add` and `remove` change the value of the named keys only.
  The correspondence runs the real cobra commands on generated files and operation sequences.
-/
import Kust.Edit
import Kust.Kustfile
import Kust.Gen.Lists
import Kust.Lemmas.Basic
namespace Kust.C17
open Kust Kustfile Edit

/-! ### the file level -/

theorem flatMap_appendToLast (fs : List CF) (c : List String) (h : fs ≠ []) :
    (appendToLast fs c).flatMap (·.comment) = fs.flatMap (·.comment) ++ c := by
  fun_induction appendToLast fs c with
  | case1 => exact absurd rfl h
  | case2 cf c => simp                         -- the last field
  | case3 cf r c hr ih => simp [ih (by simpa using hr)]

theorem appendToLast_fields (fs : List CF) (c : List String) :
    (appendToLast fs c).map (·.field) = fs.map (·.field) := by
  fun_induction appendToLast fs c <;> simp [*]

theorem parseStep_comments (order : List String) (st : Parsed) (line : String) :
    allComments (parseStep order st line) = allComments st ++ [line].filter isCommentOrBlank := by
  fun_cases parseStep order st line
  · simp [allComments, *]                      -- comment line: joins the pending block
  · simp [allComments, *]                      -- field line: takes the pending block
  · simp [*]                                   -- other line, nothing to move
  · next hc _ hne =>                           -- other line: the pending block goes to the last field
    simp only [Bool.or_eq_true, List.isEmpty_iff, not_or] at hne
    simp [allComments, hc, flatMap_appendToLast _ _ hne.2]

theorem foldl_comments (order : List String) (lines : List String) (st : Parsed) :
    allComments (lines.foldl (parseStep order) st) = allComments st ++ lines.filter isCommentOrBlank := by
  induction lines generalizing st with
  | nil => simp
  | cons l r ih => rw [List.foldl_cons, ih, parseStep_comments, List.append_assoc, ← List.filter_append]; rfl

/-- the comment blocks of the rewritten file are exactly the comment and blank lines of the
    original, in order — for every text, including an unterminated last comment line -/
theorem comments_kept (order : List String) (lines : List String) (rest : String) :
    allComments (parseLines order lines rest) =
      lines.filter isCommentOrBlank ++ (if rest ≠ "" ∧ isCommentOrBlank rest then [rest ++ "\n"] else []) := by
  have h : allComments (lines.foldl (parseStep order) {}) = lines.filter isCommentOrBlank :=
    foldl_comments order lines {}
  unfold parseLines
  split
  · rw [← h]; exact (List.append_assoc ..).symm
  · rw [h, List.append_nil]

theorem filter_true {α} (l : List α) : l.filter (fun _ => true) = l := List.filter_eq_self.mpr fun _ _ => rfl

theorem filter_false {α} (l : List α) : l.filter (fun _ => false) = [] := List.filter_eq_nil_iff.mpr fun _ _ => nofun

/-- the comment pieces of the output are all the comments, whatever the fields render to -/
theorem pieces_comments (mf : String → String) (order : List String) (p : Parsed) :
    ((pieces mf order p).filter (·.1)).map (·.2) = allComments p := by
  -- the filter goes through `++`, `flatMap` and `map` down to the tags, where it is constant
  simp [pieces, allComments, List.filter_append, List.filter_flatMap, List.map_flatMap, List.filter_map,
    Function.comp_def, filter_true, filter_false]

/-- the field pieces are the fields of `fieldsOut`, rendered -/
theorem pieces_fields (mf : String → String) (order : List String) (p : Parsed) :
    ((pieces mf order p).filter (!·.1)).map (·.2) = (fieldsOut order p).map mf := by
  simp [pieces, fieldsOut, List.filter_append, List.filter_flatMap, List.filter_map, Function.comp_def, filter_false,
    ← List.map_eq_flatMap]

/-- the fields that were in the file come first, in their original order -/
theorem orig_order_kept (order : List String) (p : Parsed) :
    (fieldsOut order p).take p.fields.length = p.fields.map (·.field) := by
  simp [fieldsOut]

theorem parseStep_fields_sub (order : List String) (st : Parsed) (line : String)
    (h : ∀ f ∈ st.fields.map (·.field), f ∈ order) : ∀ f ∈ (parseStep order st line).fields.map (·.field), f ∈ order := by
  fun_cases parseStep order st line
  · exact h
  · next f hf =>                               -- field line: `findField` found `f` in `order`
    rw [List.map_append]
    exact List.forall_mem_append.mpr ⟨h, by simpa using List.mem_of_find?_eq_some hf⟩
  · exact h
  · rwa [appendToLast_fields]

theorem parsed_fields_sub (order : List String) (lines : List String) (rest : String) :
    ∀ f ∈ (parseLines order lines rest).fields.map (·.field), f ∈ order := by
  have h := List.foldlRecOn lines (parseStep order) (b := {})
    (motive := fun st => ∀ f ∈ st.fields.map (·.field), f ∈ order) nofun
    fun st h l _ => parseStep_fields_sub order st l h
  -- the unterminated rest can only become a comment
  unfold parseLines
  split <;> exact h

/-- when no field line occurs twice in the file, the rewritten file contains every field of
    the marshalling order exactly once -/
theorem fields_out_perm (order : List String) (p : Parsed) (ho : order.Nodup)
    (hp : (p.fields.map (·.field)).Nodup) (hs : ∀ f ∈ p.fields.map (·.field), f ∈ order) :
    (fieldsOut order p).Perm order := by
  -- the fields of the file are those fields of `order` that the second part of `fieldsOut` filters out
  have hF : (p.fields.map (·.field)).Perm (order.filter fun f => p.fields.any (·.field = f)) :=
    (List.perm_ext_iff_of_nodup hp (ho.filter _)).mpr fun a => by
      simp only [List.mem_filter, List.any_eq_true, List.mem_map, decide_eq_true_eq]
      exact ⟨fun h => ⟨hs a (List.mem_map.mpr h), h⟩, (·.2)⟩
  exact (hF.append_right _).trans (List.filter_append_perm _ order)

/-- the regenerated marshalling order has no duplicate -/
theorem order_nodup : Gen.fieldMarshallingOrder.Nodup := by decide +kernel

/-- every field of the Kustomization struct except the deprecated `imageTags` (emptied on read) is in the
    marshalling order — a field that is not would silently disappear on every edit -/
theorem struct_fields_covered :
    Gen.kustomizationFields.all (fun f => f.1 = "ImageTags" || Gen.fieldMarshallingOrder.contains f.1) = true := by
  decide +kernel

/-- the line matcher uses the Go field NAME, the file contains the YAML key: they agree up to case -/
theorem field_names_match_keys :
    Gen.kustomizationFields.all (fun f => f.1.toList.map lowerC == f.2.toList.map lowerC) = true := by
  simp only [Gen.kustomizationFields, List.all_cons, List.all_nil, Bool.and_true, Bool.and_eq_true]
  -- `rw` unifies each literal with `String.ofList ?cs`, so that the kernel is not asked for `"…".toList`
  and_intros <;> (rw [String.toList_ofList, String.toList_ofList]; decide +kernel)

theorem parse_ofList (order : List String) (cs : List Char) :
    parse order (String.ofList cs) = (let (ls, rest) := splitLines cs; parseLines order ls rest) := by
  rw [parse, String.toList_ofList]

/-- kernel-evaluated instance: comments before, inside and AFTER the fields, odd capitalisation -/
example :
    let p := parse Gen.fieldMarshallingOrder "# top\nRESOURCES:\n- a.yaml\n  # inner\n- b.yaml\n\nnamePrefix: x\n# tail\n# end"
    allComments p = ["# top\n", "  # inner\n", "\n", "# tail\n", "# end\n"] ∧
    p.fields.map (·.field) = ["Resources", "NamePrefix"] := by
  rw [parse_ofList]   -- (the text as characters, as in `field_names_match_keys`)
  decide +kernel

/-! ### the typed level -/

theorem normGen_idem (g : GenA) : normGen (normGen g) = normGen g := by
  fun_cases normGen g
  · rfl                                        -- `env` has been moved: it is "" now
  · next h => exact if_neg h

theorem norm_idem (e : E) : norm (norm e) = norm e := by
  -- the defaults filled in are not empty, so they are not filled in again (`c`: the test on `kind`, which the second pass
  -- spells with the `kind` the first pass left)
  have hk : (if e.kind = "" then "Kustomization" else e.kind) ≠ "" := ite_ne (fun _ => by simp) id
  have ha : ∀ c : Prop, [Decidable c] → (if e.apiVersion = "" then
      (if c then "kustomize.config.k8s.io/v1alpha1" else "kustomize.config.k8s.io/v1beta1") else e.apiVersion) ≠ "" :=
    fun _ _ => ite_ne (fun _ => ite_ne (fun _ => by simp) fun _ => by simp) id
  simp only [norm, hk, ha, if_false, List.append_nil, List.map_map, Function.comp_def, normGen_idem]

/-- the field a command addresses -/
inductive Fld where
  | resources | components | buildMetadata | commonLabels | commonAnnotations | labels | nspace | namePrefix | nameSuffix
  | images | replicas | cms | secrets | patches
  deriving DecidableEq, Repr

def addr : Op → Fld
  | .addResource _ => .resources
  | .removeResource _ => .resources
  | .addComponent _ => .components
  | .addBuildMeta _ => .buildMetadata
  | .removeBuildMeta _ => .buildMetadata
  | .setBuildMeta _ => .buildMetadata
  | .addLabel _ _ wosel _ => if wosel then .labels else .commonLabels
  | .addAnnotation _ _ => .commonAnnotations
  | .setLabel _ => .commonLabels
  | .setAnnotation _ => .commonAnnotations
  | .removeLabel _ _ => .commonLabels
  | .removeAnnotation _ _ => .commonAnnotations
  | .setNamespace _ => .nspace
  | .setNamePrefix _ => .namePrefix
  | .setNameSuffix _ => .nameSuffix
  | .setReplicas _ => .replicas
  | .setImage _ => .images
  | .addConfigMap .. => .cms
  | .removeConfigMap .. => .cms
  | .addSecret .. => .secrets
  | .removeSecret .. => .secrets
  | .addPatch _ => .patches
  | .removePatch _ => .patches

/-- forget one field -/
def blank (f : Fld) (e : E) : E :=
  match f with
  | .resources => { e with resources := [] }
  | .components => { e with components := [] }
  | .buildMetadata => { e with buildMetadata := [] }
  | .commonLabels => { e with commonLabels := [] }
  | .commonAnnotations => { e with commonAnnotations := [] }
  | .labels => { e with labels := [] }
  | .nspace => { e with nspace := "" }
  | .namePrefix => { e with namePrefix := "" }
  | .nameSuffix => { e with nameSuffix := "" }
  | .images => { e with images := [] }
  | .replicas => { e with replicas := [] }
  | .cms => { e with cms := [] }
  | .secrets => { e with secrets := [] }
  | .patches => { e with patches := [] }

/-- `blank` field by field: what the 14 × 14 case analyses on two field names would otherwise re-derive -/
theorem blank_eq (f : Fld) (e : E) : blank f e =
    { e with
      resources := if f = .resources then [] else e.resources
      components := if f = .components then [] else e.components
      buildMetadata := if f = .buildMetadata then [] else e.buildMetadata
      commonLabels := if f = .commonLabels then [] else e.commonLabels
      commonAnnotations := if f = .commonAnnotations then [] else e.commonAnnotations
      labels := if f = .labels then [] else e.labels
      nspace := if f = .nspace then "" else e.nspace
      namePrefix := if f = .namePrefix then "" else e.namePrefix
      nameSuffix := if f = .nameSuffix then "" else e.nameSuffix
      images := if f = .images then [] else e.images
      replicas := if f = .replicas then [] else e.replicas
      cms := if f = .cms then [] else e.cms
      secrets := if f = .secrets then [] else e.secrets
      patches := if f = .patches then [] else e.patches } := by
  cases f <;> rfl

theorem ite_ite_swap {α} {p q : Prop} [Decidable p] [Decidable q] (z x : α) :
    (if p then z else if q then z else x) = if q then z else if p then z else x := by
  by_cases hp : p
  · rw [if_pos hp, if_pos hp, ite_self]
  · rw [if_neg hp, if_neg hp]

/-- `P` holds of what the command wrote, if it wrote -/
def Wrote (P : E → Prop) : Outcome → Prop
  | .wrote e => P e
  | _ => True

/-- every branch of every command ends in `err`, `noop` or `wrote { norm e with <addressed field> := _ }` -/
theorem apply_frame (vk : String → Bool) (e : E) (op : Op) :
    Wrote (fun e' => blank (addr op) e' = blank (addr op) (norm e)) (apply vk e op) := by
  -- the `err` and `noop` leaves end here: `Wrote _ _` is `True`.  `zetaDelta` puts `norm e` for the `let e := norm e0` of
  -- `apply`; `*`: `addr` of `add label` asks for a flag the branch has decided
  fun_cases apply vk e op <;> simp +zetaDelta only [Wrote, addr, *]
  -- a `wrote` leaf, both sides `blank <field> { norm e with … }`: `norm e` is made opaque, so that `rfl` compares
  -- records over a variable and does not unfold `norm`
  all_goals
    generalize norm e = n
    exact rfl

/-- whatever a command writes differs from the (normalised) content it read in the addressed field only -/
theorem frame (vk : String → Bool) (e e' : E) (op : Op) (h : apply vk e op = .wrote e') :
    blank (addr op) e' = blank (addr op) (norm e) := by
  have := apply_frame vk e op
  rwa [h] at this

/-- forgetting two fields, in either order -/
theorem blank_comm (f g : Fld) (e : E) : blank f (blank g e) = blank g (blank f e) := by
  rw [blank_eq f, blank_eq g, blank_eq g, blank_eq f]
  dsimp only
  congr 1 <;> exact ite_ite_swap ..

theorem blank_norm (f : Fld) (e : E) : blank f (norm (norm e)) = blank f (norm e) := by rw [norm_idem]

/-- normalisation commutes with forgetting an addressed field, except that `resources` absorbs `bases`, `images`
    absorbs `imageTags` and the generators absorb `env` -/
def normStable (f : Fld) : Bool :=
  match f with
  | .resources | .images | .cms | .secrets => false
  | _ => true

theorem blank_norm_comm (f : Fld) (e : E) (h : normStable f = true) : blank f (norm e) = norm (blank f e) := by
  -- `h` excludes the four fields that absorb a deprecated spelling
  cases f <;> first | exact Bool.noConfusion h | rfl

/-- **frame for sequences**: a reading `get` of the state that sees neither the normalisation nor any field the
    commands address has the same value after the commands as before -/
theorem runOps_get {α} (vk : String → Bool) (get : E → α) {ops : List Op} (hn : ∀ e, get (norm e) = get e)
    (hb : ∀ op ∈ ops, ∀ e, get (blank (addr op) e) = get e) (e : E) : get (runOps vk e ops) = get e := by
  induction ops generalizing e with
  | nil => rfl
  | cons op r ih =>
    rw [runOps, ih fun o ho => hb o (List.mem_cons_of_mem _ ho)]
    cases ha : apply vk e op with
    | err => rfl
    | noop => rfl
    | wrote e' =>
      have hop := hb op List.mem_cons_self
      rw [Outcome.state, ← hop e', frame vk e e' op ha, hop, hn]

/-- instance of `runOps_get`: no sequence of commands other than set-namespace changes the namespace -/
theorem namespace_untouched (vk : String → Bool) (ops : List Op) (h : ∀ op ∈ ops, addr op ≠ .nspace) (e : E) :
    (runOps vk e ops).nspace = e.nspace :=
  runOps_get vk (·.nspace) (fun _ => rfl) (fun op ho e => by rw [blank_eq]; exact if_neg (h op ho)) e

theorem patches_untouched (vk : String → Bool) (ops : List Op) (h : ∀ op ∈ ops, addr op ≠ .patches) (e : E) :
    (runOps vk e ops).patches = e.patches :=
  runOps_get vk (·.patches) (fun _ => rfl) (fun op ho e => by rw [blank_eq]; exact if_neg (h op ho)) e

theorem commonLabels_untouched (vk : String → Bool) (ops : List Op) (h : ∀ op ∈ ops, addr op ≠ .commonLabels) (e : E) :
    (runOps vk e ops).commonLabels = e.commonLabels :=
  runOps_get vk (·.commonLabels) (fun _ => rfl) (fun op ho e => by rw [blank_eq]; exact if_neg (h op ho)) e

/-! ### idempotence of `set` -/

theorem set_namespace_idem (vk : String → Bool) (e e1 : E) (a : List String)
    (h : apply vk e (.setNamespace a) = .wrote e1) : apply vk e1 (.setNamespace a) = .wrote e1 := by
  match a, h with
  | [s], h =>                                  -- (with any other argument list the command is an error)
    obtain rfl : { norm e with nspace := s } = e1 := Outcome.wrote.inj h
    -- `norm` does not read the namespace
    show Outcome.wrote { norm (norm e) with nspace := s } = _
    rw [norm_idem]

theorem mapSet_idem (k v : String) (m : SMap) : mapSet k v (mapSet k v m) = mapSet k v m := by
  fun_induction mapSet k v m <;> simp [mapSet, *]

/-! ### the label / annotation map refines a key → value function: `set` and `remove` change exactly the named key -/

/-- the value a label / annotation map holds for `k` (first entry wins, as in the Go map the list is read into) -/
def mapGet (k : String) (m : SMap) : Option String := (m.find? (·.1 = k)).map (·.2)

theorem mapGet_cons (k a b : String) (r : SMap) : mapGet k ((a, b) :: r) = if a = k then some b else mapGet k r := by
  by_cases h : a = k <;> simp [mapGet, h]

theorem mapGet_mapSet (k k' v : String) (m : SMap) :
    mapGet k' (mapSet k v m) = if k = k' then some v else mapGet k' m := by
  -- along `mapSet`: what is left are the cases of `k`, `k'` and the head key being equal or not
  fun_induction mapSet k v m <;> simp only [mapGet_cons, *] <;> grind

theorem mapGet_mapDel (k k' : String) (m : SMap) :
    mapGet k' (mapDel k m) = if k = k' then none else mapGet k' m := by
  simp only [mapGet, mapDel, List.find?_filter]
  split
  · next h => subst h; simp
  · next h =>
    congr 2; funext x
    by_cases hx : x.1 = k' <;> simp [hx, Ne.symm h]

theorem mapHas_eq (k : String) (m : SMap) : mapHas k m = (mapGet k m).isSome := by
  rw [mapGet, Option.isSome_map, List.isSome_find?]; rfl

theorem mapGet_mapSet_same (k v : String) (m : SMap) : mapGet k (mapSet k v m) = some v := by
  rw [mapGet_mapSet, if_pos rfl]

/-- **frame inside a map**: setting `k` leaves the value of every other key as it was -/
theorem mapGet_mapSet_ne (k k' v : String) (m : SMap) (h : k' ≠ k) : mapGet k' (mapSet k v m) = mapGet k' m := by
  rw [mapGet_mapSet, if_neg h.symm]

theorem mapGet_mapDel_same (k : String) (m : SMap) : mapGet k (mapDel k m) = none := by
  rw [mapGet_mapDel, if_pos rfl]

/-- removing `k` leaves the value of every other key as it was -/
theorem mapGet_mapDel_ne (k k' : String) (m : SMap) (h : k' ≠ k) : mapGet k' (mapDel k m) = mapGet k' m := by
  rw [mapGet_mapDel, if_neg h.symm]

theorem mapHas_mapSet (k v : String) (m : SMap) : mapHas k (mapSet k v m) = true := by
  rw [mapHas_eq, mapGet_mapSet_same]; rfl

theorem mapDel_of_not_has {k : String} {m : SMap} (h : mapHas k m = false) : mapDel k m = m := by
  refine List.filter_eq_self.mpr fun x hx => ?_
  have hne : ¬ x.1 = k := fun e => List.any_eq_false.mp h x hx (decide_eq_true e)   -- no entry of `m` has the key
  exact decide_eq_true hne

theorem mapDel_mapSet_eq (k v : String) (m : SMap) : mapDel k (mapSet k v m) = mapDel k m := by
  fun_induction mapSet k v m <;> simp_all [mapDel]

theorem mapDel_mapSet (k v : String) (m : SMap) (h : mapHas k m = false) : mapDel k (mapSet k v m) = m := by
  rw [mapDel_mapSet_eq, mapDel_of_not_has h]

/-! ### add followed by the matching remove -/

theorem filter_remove_appended {l : List String} {p : String} (h : p ∉ l) :
    (l ++ [p]).filter (fun x => ![p].contains x) = l := by
  have : ∀ x ∈ l, ¬ x = p := fun x hx e => h (e ▸ hx)
  simpa [List.filter_append] using this

/-- adding a resource that is not there and removing it again restores the list -/
theorem add_remove_resource (vk : String → Bool) (e e1 : E) (p : String)
    (hp : p ≠ kustPath) (hn : p ∉ (norm e).resources)
    (h1 : apply vk e (.addResource [p]) = .wrote e1) :
    apply vk e1 (.removeResource [p]) = .wrote (norm e) := by
  have hadd : addPaths (norm e).resources [p] = (norm e).resources ++ [p] := by simp [addPaths, hp, hn]
  obtain rfl : { norm e with resources := (norm e).resources ++ [p] } = e1 := hadd ▸ Outcome.wrote.inj h1
  -- what `remove` reads is what `add` wrote: `norm` is idempotent, and it looks at `resources` only to append `bases`,
  -- which `norm e` has emptied.  From here on `norm e` is a variable with these two properties.
  have hb : (norm e).bases = [] := rfl
  have hnn := norm_idem e
  generalize norm e = n at *
  have hread : norm { n with resources := n.resources ++ [p] } = { n with resources := n.resources ++ [p] } := by
    show ({ norm n with resources := n.resources ++ [p] ++ n.bases } : E) = _
    simp only [hnn, hb, List.append_nil]
  unfold apply
  simp only [hread, List.isEmpty_cons, Bool.false_eq_true, if_false, filter_remove_appended hn]
  exact if_pos (by simp)

/-- non-vacuity / worked history: add a resource, set the namespace twice, remove the resource -/
example :
    let e0 : E := { resources := ["a.yaml"], bases := ["../base"], commonLabels := [("app", "x")] }
    let e := runOps (fun _ => true) e0
      [.addResource ["b.yaml"], .setNamespace ["prod"], .setNamespace ["prod"], .removeResource ["b.yaml"]]
    e.resources = ["a.yaml", "../base"] ∧ e.nspace = "prod" ∧ e.commonLabels = [("app", "x")] ∧ e.bases = [] := by
  decide +kernel

theorem mapSet_ne_nil (k v : String) (m : SMap) : (mapSet k v m).isEmpty = false := by
  fun_cases mapSet k v m <;> rfl

/-- adding a key that is not there (`add label k:v`, `add annotation k:v`) and removing it
    again (`remove label k`) restores the map — whatever the map and the `ignore` flag -/
theorem add_remove_map (k v : String) (m m' : SMap) (ignore : Bool)
    (h : addToMap false [(k, v)] m = some m') : removeKeys ignore [k] m' = some m := by
  revert h
  fun_cases addToMap false [(k, v)] m
  · nofun                                      -- the key is there: `add` fails
  · next hn =>
    rintro ⟨⟩
    have hk : mapHas k m = false := by simpa using hn
    simp [removeKeys, mapSetAll, mapSet_ne_nil, mapHas_mapSet, mapDel_mapSet k v m hk]

/-- **frame for several pairs**: `add label/annotation k1:v1,…` (mapSetAll) leaves every key that is not named untouched —
    for every map and every pair list -/
theorem mapGet_mapSetAll_frame (kvs m : SMap) (k' : String) (h : ∀ kv ∈ kvs, kv.1 ≠ k') :
    mapGet k' (mapSetAll kvs m) = mapGet k' m :=
  List.foldlRecOn kvs _ (motive := fun m' => mapGet k' m' = mapGet k' m) rfl fun m' hm kv hkv =>
    (mapGet_mapSet_ne kv.1 k' kv.2 m' (h kv hkv).symm).trans hm

/-- the last pair naming `k'` decides its value after `mapSetAll` (dictionary update semantics) -/
theorem mapGet_mapSetAll_last (kvs r m : SMap) (k' v : String) (h : ∀ kv ∈ r, kv.1 ≠ k') :
    mapGet k' (mapSetAll (kvs ++ (k', v) :: r) m) = some v := by
  have : mapSetAll (kvs ++ (k', v) :: r) m = mapSetAll r (mapSet k' v (mapSetAll kvs m)) := by
    simp [mapSetAll, List.foldl_append]
  rw [this, mapGet_mapSetAll_frame r _ k' h, mapGet_mapSet_same]

example : mapGet "b" (mapSetAll [("a", "1"), ("b", "2"), ("a", "3")] [("b", "0"), ("c", "9")]) = some "2" := by decide +kernel

end Kust.C17
