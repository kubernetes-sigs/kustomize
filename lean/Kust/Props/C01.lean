/-
  C01 — a build is a deterministic, history-independent function of its inputs.
  (a) schema state: for EVERY history of earlier builds (any selections, any schema operations, any length) a
      build observes exactly what it observes in a fresh process (`C01_history`), for the repaired `SetSchema`;
      the pre-repair code is refuted by a kernel-evaluated witness (`Witness.old_custom_schema_leaks`).
  (b) iteration order: the sorted-key iteration sites are permutation-invariant (`sortStrs_perm`, below);
  (c) the `range`-over-map sites of the build closure are the reviewed ones (`C01_map_sites_covered`).
-/
import Kust.OpenApi
import Kust.Walk
import Kust.Sort
import Kust.Lemmas.Basic
import Kust.Gen.CodeFacts
import Kust.Reviewed
namespace Kust.C01
open Kust OpenApi

/-- selections are well-formed: a "bad version" is neither empty nor the default -/
def Sel.wf : Sel → Prop
  | .badVersion v => v ≠ "" ∧ v ≠ defaultVersion
  | _ => True

/-- what holds in every state whose current selection is the default built-in schema -/
def DefaultInv (s : St) : Prop :=
  s.custom = none ∧ (s.version = "" ∨ s.version = defaultVersion) ∧ customsOf s.defs = [] ∧
  (s.init = true → Src.builtin ∈ s.defs)

theorem customsOf_append (a b : List Src) : customsOf (a ++ b) = customsOf a ++ customsOf b := by
  fun_induction customsOf a <;> simp [customsOf, *]

theorem customsOf_addDef (d : Src) (l : List Src) (hd : customsOf [d] = []) : customsOf (addDef d l) = customsOf l := by
  unfold addDef
  split
  · rfl
  · rw [customsOf_append, hd, List.append_nil]

theorem mem_addDef (d e : Src) (l : List Src) : d ∈ addDef e l ↔ d ∈ l ∨ d = e := by
  unfold addDef
  split
  · rename_i h
    exact ⟨Or.inl, fun hm => hm.elim id fun e => e ▸ by simpa using h⟩
  · simp

theorem initSchema_noncustom (s : St) (hi : s.init = false) (hc : s.custom = none) :
    initSchema s = { s with init := true, status := .parsed, defs := addDef .kustapi (addDef .builtin s.defs) } := by
  simp [initSchema, hi, hc]

theorem initSchema_default (s : St) (h : DefaultInv s) :
    DefaultInv (initSchema s) ∧ Src.builtin ∈ (initSchema s).defs := by
  cases hi : s.init
  · have hb : Src.builtin ∈ addDef .kustapi (addDef .builtin s.defs) :=
      (mem_addDef ..).mpr (.inl ((mem_addDef ..).mpr (.inr rfl)))
    have hc := (customsOf_addDef .kustapi _ rfl).trans ((customsOf_addDef .builtin _ rfl).trans h.2.2.1)
    rw [initSchema_noncustom s hi h.1]
    -- (unifying the hypotheses with the goal through the `addDef` terms is slow)
    generalize addDef .kustapi (addDef .builtin s.defs) = d at hb hc ⊢
    exact ⟨⟨h.1, h.2.1, hc, fun _ => hb⟩, hb⟩
  · rw [initSchema, if_pos hi]
    exact ⟨h, h.2.2.2 hi⟩

/-- `nsCheck` returns `s`, `initSchema s`, or `s` with the parse of the built-in schema put off -/
theorem nsCheck_cases {P : St → Prop} (s : St) (h0 : P s) (h1 : P (initSchema s))
    (h2 : P { s with status := .delayed }) : P (nsCheck s) :=
  of_ite (fun _ => h0) fun _ => of_ite (fun _ => h1) fun _ =>
    of_ite (fun _ => of_ite (fun _ => h2) fun _ => h0) fun _ => h1

theorem step_default (s : St) (op : Op) (h : DefaultInv s) : DefaultInv (step s op) := by
  cases op with
  | use => exact (initSchema_default s h).1
  | ns => exact nsCheck_cases s h (initSchema_default s h).1 h  -- `DefaultInv` does not mention `status`

/-- what a build under the default selection sees: no custom definitions, and the built-in ones at a lookup -/
def defaultObs : Op → Obs
  | .ns => ⟨false, []⟩
  | .use => ⟨true, []⟩

theorem observe_step_default (s : St) (op : Op) (h : DefaultInv s) : observe (step s op) op = defaultObs op := by
  have h' := (step_default s op h).2.2.1
  cases op with
  | ns => simp [observe, defaultObs, h']
  | use => simp [observe, defaultObs, h', show Src.builtin ∈ (step s .use).defs from (initSchema_default s h).2]

/-- under the default selection the observations are the same from every `DefaultInv` state: they are `defaultObs` -/
theorem observeAll_of_default (s : St) (ops : List Op) (h : DefaultInv s) : observeAll s ops = ops.map defaultObs := by
  induction ops generalizing s with
  | nil => rfl
  | cons op r ih => rw [observeAll, observe_step_default s op h, ih _ (step_default s op h)]; rfl

theorem wasDefault_iff {s : St} :
    wasDefault s = true ↔ s.custom = none ∧ (s.version = "" ∨ s.version = defaultVersion) := by
  simp [wasDefault]

theorem wasDefault_of_inv (s : St) (h : DefaultInv s) : wasDefault s = true :=
  wasDefault_iff.mpr ⟨h.1, h.2.1⟩

/-- the invariant every reachable state satisfies: whenever the current selection is the default one, `DefaultInv` holds -/
def Reach (s : St) : Prop := wasDefault s = true → DefaultInv s

theorem wasDefault_initSchema (s : St) : wasDefault (initSchema s) = wasDefault s := by
  -- `initSchema` writes `init`, `status` and `defs` only
  obtain ⟨v, c, i, st, d⟩ := s
  cases i <;> cases c <;> cases st <;> rfl

/-- the schema operations do not change whether the selection is the default one -/
theorem wasDefault_step (s : St) (op : Op) : wasDefault (step s op) = wasDefault s := by
  cases op with
  | use => exact wasDefault_initSchema s
  | ns => exact nsCheck_cases (P := fun t => wasDefault t = wasDefault s) s rfl (wasDefault_initSchema s) rfl

theorem runOps_reach (s : St) (ops : List Op) (hr : Reach s) : Reach (runOps s ops) := by
  induction ops generalizing s with
  | nil => exact hr
  | cons op r ih => exact ih _ fun hw => step_default s op (hr (wasDefault_step s op ▸ hw))

/-- a state in which nothing has been parsed satisfies it (the fresh process; the state after a reset) -/
theorem reach_of_unparsed (s : St) (hi : s.init = false) (hd : s.defs = []) : Reach s := fun hw =>
  have ⟨h1, h2⟩ := wasDefault_iff.mp hw
  ⟨h1, h2, hd ▸ rfl, fun h => absurd (hi ▸ h) nofun⟩

/-- `SetSchema` with reset starts from scratch unless both the old and the new selection are the default -/
theorem set_fresh (s : St) (sel : Sel) (h : (wasDefault s && sel.isDefault) = false) :
    setSchema s sel true = setSchema {} sel true := by
  unfold setSchema
  simp only [h, Bool.not_true, Bool.and_false, Bool.false_eq_true, if_false, Bool.not_false, Bool.and_true, if_true,
    ite_self]

/-- a selection other than the default starts from scratch -/
theorem set_nondefault_fresh (s : St) (sel : Sel) (h : sel.isDefault = false) :
    setSchema s sel true = setSchema {} sel true :=
  set_fresh s sel (by rw [h, Bool.and_false])

theorem set_default_of_inv (s : St) (e : Bool) (h : DefaultInv s) :
    (setSchema s (.dflt e) true).2 = false ∧ DefaultInv (setSchema s (.dflt e) true).1 := by
  have hw := wasDefault_of_inv s h
  obtain ⟨h1, h2, h3, h4⟩ := h
  unfold setSchema
  simp only [hw, Sel.isDefault, Bool.and_true, Bool.not_true, Bool.and_false, Bool.false_eq_true, if_false]
  cases e
  · exact ⟨rfl, h1, Or.inl rfl, h3, h4⟩
  · exact ⟨rfl, rfl, Or.inr rfl, h3, fun hc => by simp at hc⟩

theorem set_default (s : St) (e : Bool) (hr : Reach s) :
    (setSchema s (.dflt e) true).2 = false ∧ DefaultInv (setSchema s (.dflt e) true).1 := by
  by_cases hw : wasDefault s = true
  · exact set_default_of_inv s e (hr hw)
  · rw [set_fresh s _ (by simp [hw])]
    exact set_default_of_inv {} e (reach_of_unparsed {} rfl rfl rfl)

theorem set_reach (s : St) (sel : Sel) (hr : Reach s) : Reach (setSchema s sel true).1 := by
  cases sel with
  | dflt e => exact fun _ => (set_default s e hr).2
  | custom x | badVersion x => rw [set_nondefault_fresh s _ rfl]; exact reach_of_unparsed _ rfl rfl

theorem build_reach (s : St) (sel : Sel) (ops : List Op) (hr : Reach s) : Reach (build setSchema s sel ops).1 :=
  of_ite (C := fun r : St × Option (List Obs) => Reach r.1) (fun _ => set_reach s sel hr) fun _ =>
    runOps_reach _ ops (set_reach s sel hr)

theorem history_reach (H : List (Sel × List Op)) (s : St) (hr : Reach s) : Reach (runHistory setSchema s H) := by
  induction H generalizing s with
  | nil => exact hr
  | cons b r ih => exact ih _ (build_reach s b.1 b.2 hr)

theorem build_default (s : St) (e : Bool) (ops : List Op) (hr : Reach s) :
    (build setSchema s (.dflt e) ops).2 = some (ops.map defaultObs) := by
  obtain ⟨h1, h2⟩ := set_default s e hr
  simp only [build, h1, Bool.false_eq_true, if_false, observeAll_of_default _ ops h2]

/-- a build observes from every reachable state what it observes in a fresh process -/
theorem build_fresh (s : St) (c : Sel) (ops : List Op) (hr : Reach s) :
    (build setSchema s c ops).2 = (build setSchema {} c ops).2 := by
  cases c with
  | dflt e => rw [build_default s e ops hr, build_default {} e ops (reach_of_unparsed {} rfl rfl)]
  | custom c => simp only [build, set_nondefault_fresh s (.custom c) rfl]
  | badVersion v => simp only [build, set_nondefault_fresh s (.badVersion v) rfl]

/-- whatever builds ran earlier in the process — any number, with any `openapi:` selections
    (default, custom schemas, unknown versions) and any schema operations — a build with selection `c` and schema
    operations `ops` observes exactly what it observes in a fresh process (and fails iff it fails there).
    (The proof does not need `hH`: `build_fresh` holds from every state that `history_reach` reaches.) -/
theorem C01_history (H : List (Sel × List Op)) (c : Sel) (ops : List Op) (hH : ∀ b ∈ H, Sel.wf b.1) :
    (build setSchema (runHistory setSchema {} H) c ops).2 = (build setSchema {} c ops).2 :=
  build_fresh _ c ops (history_reach H {} (reach_of_unparsed {} rfl rfl))

/-- non-vacuity: a history with a custom-schema build that really parses its schema, then a default build -/
example : (build setSchema (runHistory setSchema {} [(.custom 7, [.ns, .use])]) (.dflt false) [.ns, .use]).2
    = some [⟨false, []⟩, ⟨true, []⟩] := by decide +kernel

/-- finding 1 (C01-F6, repaired): with the OLD `SetSchema` the same default build, run after a custom-schema build, still
    saw the custom definitions (and not the built-in ones) — a different observation than in a fresh process. -/
theorem Witness.old_custom_schema_leaks :
    (build setSchemaOld (runHistory setSchemaOld {} [(.custom 7, [.use])]) (.dflt false) [.use]).2
      ≠ (build setSchemaOld {} (.dflt false) [.use]).2 := by decide +kernel

/-! ### iteration order -/

section
open Walk

theorem mem_insertStr {x a : String} {l : List String} : x ∈ insertStr a l ↔ x = a ∨ x ∈ l := by
  fun_induction insertStr a l with
  | case1 => simp
  | case2 ys => simp
  | case3 y ys _ _ => simp
  | case4 y ys _ _ ih => simp [ih, or_left_comm]

theorem insertStr_sorted {a : String} {l : List String} (h : l.Pairwise (· < ·)) :
    (insertStr a l).Pairwise (· < ·) := by
  fun_induction insertStr a l with
  | case1 => simp
  | case2 ys => exact h
  | case3 y ys _ hlt =>
    -- `a` goes in front: it is below `y`, hence below all of `ys`
    exact .cons (List.forall_mem_cons.mpr ⟨hlt, fun z hz => String.lt_trans hlt (List.rel_of_pairwise_cons h hz)⟩) h
  | case4 y ys hne hnlt ih =>
    -- `a` goes further back: `y < a`, and `y` is below all of `ys`
    obtain ⟨hy, hys⟩ := List.pairwise_cons.mp h
    have hya : y < a := Std.lt_of_le_of_ne (Std.not_lt.mp hnlt) (Ne.symm hne)
    exact .cons (fun z hz => (mem_insertStr.mp hz).elim (· ▸ hya) (hy z)) (ih hys)

theorem foldl_insertStr (l acc : List String) (h : acc.Pairwise (· < ·)) :
    (l.foldl (fun a x => insertStr x a) acc).Pairwise (· < ·) ∧
      ∀ x, x ∈ l.foldl (fun a x => insertStr x a) acc ↔ x ∈ acc ∨ x ∈ l := by
  induction l generalizing acc with
  | nil => simp [h]
  | cons y ys ih =>
    obtain ⟨h1, h2⟩ := ih (insertStr y acc) (insertStr_sorted h)
    exact ⟨h1, fun x => by
      rw [List.foldl_cons, h2, mem_insertStr, List.mem_cons]; simp only [or_assoc, or_left_comm]⟩

/-- `sortStrs l` is strictly increasing — with `mem_sortStrs`, THE strictly increasing list with the elements of `l` -/
theorem sortStrs_sorted (l : List String) : (sortStrs l).Pairwise (· < ·) := (foldl_insertStr l [] .nil).1

theorem mem_sortStrs {x : String} {l : List String} : x ∈ sortStrs l ↔ x ∈ l := by
  simpa [sortStrs] using (foldl_insertStr l [] .nil).2 x

/-- so it depends on the SET of keys only: neither on the order in which a hash map hands them out (`Walker.fieldNames`,
    `SortedMapKeys`, …) nor on repetitions -/
theorem sortStrs_congr {l₁ l₂ : List String} (h : ∀ x, x ∈ l₁ ↔ x ∈ l₂) : sortStrs l₁ = sortStrs l₂ :=
  eq_of_pairwise_of_mem_iff (fun _ _ => String.lt_asymm) (sortStrs_sorted l₁) (sortStrs_sorted l₂)
    fun x => by rw [mem_sortStrs, mem_sortStrs, h]

/-- the sorted-key iteration sites: `sortStrs (π keys) = sortStrs keys` for every permutation π -/
theorem sortStrs_perm {l₁ l₂ : List String} (h : l₁.Perm l₂) : sortStrs l₁ = sortStrs l₂ :=
  sortStrs_congr fun _ => h.mem_iff

end

/-! ### the code's own iteration sites (regenerated by SSA + RTA from (*Kustomizer).Run) -/

/-- the `range`-over-map statements reachable from a build are exactly the reviewed
    ones (function and count), each reviewed as unable to make the result depend on iteration order.
    A new or changed site makes the two tables differ, and this `rfl` fails. -/
theorem C01_map_sites_covered :
    Gen.mapRangeSites.map (fun e => (e.1, e.2.2)) = Reviewed.mapRangeSites.map (fun e => (e.1, e.2.1)) := rfl

theorem map_sites_all_reviewed : Reviewed.mapRangeSites.all (fun e => e.2.2 != "UNREVIEWED") = true := by decide +kernel

end Kust.C01
