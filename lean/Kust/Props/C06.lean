/-
  C06 — generators layer like dictionaries and name their output by its final content.
  Theorems about `Kust.GenMap` (`over`, `absorb`, the hash encoding), tied by the correspondences `gen.*`; the source
  clause is in C06b.  `foldSpec` (the dictionary a chain of layers defines), `Content`, `Envelope` and `suffix` (the
  hasher with the digest as a parameter) are specifications local to this file.
-/
import Kust.GenMap
import Kust.Gen.Lists
namespace Kust.C06
open Kust GenMap

/-! ### dictionary algebra -/

theorem dget_map (f : String → String → String) (k : String) (d : Dict) :
    dget k (d.map fun (k', v) => (k', f k' v)) = (dget k d).map (f k) := by
  fun_induction dget k d <;> simp_all [dget]

theorem dget_append (k : String) (a b : Dict) : dget k (a ++ b) = (dget k a).orElse (fun _ => dget k b) := by
  fun_induction dget k a <;> simp_all [dget]

theorem dget_filter (p : String → Bool) (k : String) (d : Dict) :
    dget k (d.filter fun (k', _) => p k') = if p k then dget k d else none := by
  induction d with
  | nil => simp [dget]
  | cons x r ih =>
    obtain ⟨k', v⟩ := x
    by_cases hk : k' = k
    · subst hk; by_cases hp : p k' <;> simp [List.filter, hp, dget, ih]
    · by_cases hp : p k' <;> simp [List.filter, hp, dget, hk, ih]

/-- **merge = dictionary override, the overlay wins**: every key reads the overlay's value if the overlay has
    it, else the base's. -/
theorem over_get (old new : Dict) (k : String) :
    dget k (over old new) = (dget k new).orElse (fun _ => dget k old) := by
  unfold over
  rw [dget_append, dget_map (fun k' v => (dget k' new).getD v), dget_filter (fun k' => (dget k' old).isNone)]
  cases dget k old <;> cases dget k new <;> simp

/-- merging twice = merging the merged overlays (layers fold associatively) -/
theorem over_assoc (a b c : Dict) (k : String) :
    dget k (over (over a b) c) = dget k (over a (over b c)) := by
  simp only [over_get, Option.orElse_eq_or, Option.or_assoc]

/-! ### absorb, clause by clause -/

theorem create_on_absent (b : Behavior) (g : GObj) (h : b = .create ∨ b = .unspecified) : absorb none b g = .ok g := by
  rcases h with rfl | rfl <;> rfl
theorem merge_on_absent_fails (g : GObj) : absorb none .merge g = .err "absent" := rfl
theorem replace_on_absent_fails (g : GObj) : absorb none .replace g = .err "absent" := rfl
theorem create_on_present_fails (old g : GObj) (b : Behavior) (h : b = .create ∨ b = .unspecified) :
    absorb (some old) b g = .err "exists" := by
  rcases h with rfl | rfl <;> rfl
theorem merge_on_present (old g : GObj) (k : String) :
    ∃ r, absorb (some old) .merge g = .ok r ∧ dget k r.data = (dget k g.data).orElse (fun _ => dget k old.data) :=
  ⟨_, rfl, over_get _ _ k⟩
theorem replace_on_present (old g : GObj) : ∃ r, absorb (some old) .replace g = .ok r ∧ r.data = g.data := ⟨_, rfl, rfl⟩

/-- binaryData layers exactly like data: the overlay's entry wins, the base's other entries are kept -/
theorem merge_on_present_bin (old g : GObj) (k : String) :
    ∃ r, absorb (some old) .merge g = .ok r ∧ dget k r.bin = (dget k g.bin).orElse (fun _ => dget k old.bin) :=
  ⟨_, rfl, over_get _ _ k⟩
theorem replace_on_present_bin (old g : GObj) : ∃ r, absorb (some old) .replace g = .ok r ∧ r.bin = g.bin := ⟨_, rfl, rfl⟩

/-- the dictionary a chain of layers defines: fold of overrides (`replace` forgets what was there) -/
def foldSpec : Dict → List (Behavior × GObj) → Dict
  | d, [] => d
  | d, (.replace, g) :: r => foldSpec g.data r
  | d, (_, g) :: r => foldSpec (over d g.data) r

/-- for a base object and any chain of merge/replace layers the final data is the fold of
    dictionary overrides (any length). -/
theorem layer_fold (base : GObj) (ops : List (Behavior × GObj))
    (hops : ∀ o ∈ ops, o.1 = .merge ∨ o.1 = .replace) :
    ∃ r, absorbAll (some base) ops = .ok (some r) ∧ r.data = foldSpec base.data ops := by
  induction ops generalizing base with
  | nil => exact ⟨base, rfl, rfl⟩
  | cons o r ih =>
    obtain ⟨b, g⟩ := o
    -- one layer on a present object succeeds, and `foldSpec` takes the same step on the data
    obtain ⟨x, hx, hd⟩ : ∃ x, absorb (some base) b g = .ok x ∧ foldSpec base.data ((b, g) :: r) = foldSpec x.data r := by
      obtain rfl | rfl : b = .merge ∨ b = .replace := hops (b, g) (by simp)
      all_goals exact ⟨_, rfl, rfl⟩
    simp only [absorbAll, hx, hd]
    exact ih x fun o ho => hops o (by simp [ho])

/-- duplicate keys inside one generator are rejected -/
example : dataOfLiterals ["a=1", "b=2", "a=3"] [] = .err "dupkey" := by decide +kernel
example : dataOfLiterals ["a=v=w", "b=\"q\""] [] = .ok [("a", "v=w"), ("b", "q")] := by decide +kernel

/-! ### the suffix is a function of the content only -/

/-- the content record the hash looks at -/
structure Content where
  kind : String
  data : Option Dict
  type : String
  deriving DecidableEq

/-- everything else on the object -/
structure Envelope where
  name : String
  ns : String
  labels : Dict
  annotations : Dict

def hashInput (c : Content) : String :=
  if c.kind = "Secret" then encodeSecret c.data c.type else encodeConfigMap c.data

/-- `Hasher.Hash` with the digest function as a parameter -/
def suffix (sha : String → String) (c : Content) (_e : Envelope) : Out String :=
  encodeDigits Gen.hashSubst (sha (hashInput c))

/-- name, namespace, labels and annotations do not enter the suffix (by the shape of `suffix`, which takes the envelope
    and does not look at it) -/
theorem suffix_ignores_envelope (sha : String → String) (c : Content) (e e' : Envelope) :
    suffix sha c e = suffix sha c e' := rfl

/-- equal content ⇒ equal suffix (for any digest function) -/
theorem equal_content_equal_suffix (sha : String → String) (c c' : Content) (e e' : Envelope) (h : c = c') :
    suffix sha c e = suffix sha c' e' := by subst h; rfl

/-- the regenerated substitution maps the sixteen hex digits injectively (no two digests collapse after it) -/
theorem subst_injective_on_hex :
    let sub := fun (c : Char) => ((Gen.hashSubst.find? (·.1 = c)).map (·.2)).getD c
    "0123456789abcdef".toList.all (fun a => "0123456789abcdef".toList.all (fun b => sub a != sub b || a == b)) = true := by
  decide +kernel

theorem subst_expected : Gen.hashSubst = [('0', 'g'), ('1', 'h'), ('3', 'k'), ('a', 'm'), ('e', 't')] := by decide +kernel

/-! ### more dictionary laws of layering (all lengths, all dictionaries) -/

/-- merging a dictionary over itself changes no key's value -/
theorem over_idem_get (a : Dict) (k : String) : dget k (over a a) = dget k a := by
  rw [over_get]; cases dget k a <;> simp

/-- an empty overlay is the identity (as a list, not only key by key) -/
theorem over_nil_right (m : Dict) : over m [] = m := by
  simp [over, dget]

theorem foldSpec_append (d : Dict) (xs ys : List (Behavior × GObj)) :
    foldSpec d (xs ++ ys) = foldSpec (foldSpec d xs) ys := by
  fun_induction foldSpec d xs <;> simp_all [foldSpec]

/-- **last merge layer wins**: after any chain of layers, a further `merge` layer decides every key it has and
    leaves the others at what the chain produced -/
theorem foldSpec_snoc_merge (d : Dict) (ops : List (Behavior × GObj)) (g : GObj) (k : String) :
    dget k (foldSpec d (ops ++ [(.merge, g)])) = (dget k g.data).orElse (fun _ => dget k (foldSpec d ops)) := by
  rw [foldSpec_append]; simp [foldSpec, over_get]

/-- **replace forgets**: after any chain of layers, a `replace` layer leaves exactly its own data -/
theorem foldSpec_snoc_replace (d : Dict) (ops : List (Behavior × GObj)) (g : GObj) :
    foldSpec d (ops ++ [(.replace, g)]) = g.data := by
  rw [foldSpec_append]; simp [foldSpec]

/-- a key no layer mentions keeps the base's value through any chain of merge layers -/
theorem foldSpec_frame (d : Dict) (ops : List (Behavior × GObj)) (k : String)
    (hm : ∀ o ∈ ops, o.1 = .merge) (hk : ∀ o ∈ ops, dget k o.2.data = none) :
    dget k (foldSpec d ops) = dget k d := by
  fun_induction foldSpec d ops with
  | case1 => rfl
  | case2 d g r ih => exact nomatch hm (.replace, g) (by simp)   -- a `replace` layer: excluded
  | case3 d b g r hb ih =>
    rw [ih (fun o ho => hm o (by simp [ho])) (fun o ho => hk o (by simp [ho])), over_get, hk (b, g) (by simp)]
    simp

example : dget "a" (foldSpec [("a", "0"), ("z", "9")]
    [(.merge, { data := [("a", "1")], needsHash := true, bin := [] }), (.merge, { data := [("b", "2")], needsHash := true, bin := [] })]) = some "1" := by decide +kernel

/-- the suffix has exactly ten characters whenever the digest has at least ten -/
theorem suffix_length (hex : String) (h : 10 ≤ hex.length) :
    ∃ s, encodeDigits Gen.hashSubst hex = .ok s ∧ s.length = 10 := by
  rw [encodeDigits, if_neg (by omega)]
  refine ⟨_, rfl, ?_⟩
  rw [String.length_ofList, List.length_map, List.length_take, String.length_toList]
  exact Nat.min_eq_left h

end Kust.C06
