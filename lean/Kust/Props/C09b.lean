/-
  C09 (tree level: the subjects clause, then the metadata pass) — "ServiceAccount subjects of role bindings that
  designate accounts of the build move with them … cluster-scoped resources receive no namespace".  Theorems about
  `Kust.NsFilter`, the model of api/filters/namespace (Filter.run, metaNamespaceHack, roleBindingHack), tied by the
  correspondence `ns.filter`.
  `q` (yaml.IsValueNonString) is a parameter of every statement.
-/
import Kust.Lemmas.NsFilter
import Kust.Gen.FieldSpecs
namespace Kust.C09
open Kust Node Fns NsFilter

/-- the subject `o'` is the subject `.map s fs` with its `namespace` set to the directive's and nothing else changed -/
def Moved (c : Cfg) (s : Nat) (fs : Fields) (o' : Node) : Prop :=
  ∃ fs', o' = .map s fs' ∧ (∃ t st, fieldGet "namespace" fs' = some (.scalar t c.ns st)) ∧
    ∀ k, k ≠ "namespace" → fieldGet k fs' = fieldGet k fs

/-- the `namespace` of a subject can be written: it is absent or a scalar (null included) -/
def NsWritable (fs : Fields) : Prop :=
  fieldGet "namespace" fs = none ∨ ∃ t v st, fieldGet "namespace" fs = some (.scalar t v st)

theorem moved_put (c : Cfg) (s : Nat) (fs : Fields) (t : String) (st : Nat) :
    Moved c s fs (.map s (fieldPut "namespace" (.scalar t c.ns st) fs)) :=
  ⟨_, rfl, ⟨t, st, fieldGet_put_same _ _ _⟩, fun k hk => fieldGet_put_other _ k _ _ hk⟩

theorem NsWritable.target {fs : Fields} (h : NsWritable fs) :
    ∃ t v st, (fieldGet "namespace" fs).getD (.scalar "" "" 0) = .scalar t v st := by
  rcases h with h | ⟨t, v, st, h⟩
  · exact ⟨"", "", 0, by rw [h]; rfl⟩
  · exact ⟨t, v, st, by rw [h]; rfl⟩

theorem setNamespaceField_moves (q : String → Bool) (c : Cfg) (hu : c.unsetOnly = false) (s : Nat) (fs : Fields)
    (hns : NsWritable fs) : ∃ o', setNamespaceField q c (.map s fs) = .ok o' ∧ Moved c s fs o' := by
  obtain ⟨t, v, st, ht⟩ := hns.target
  exact ⟨_, by rw [setNamespaceField_map, ht, setFn_scalar q c t v st (Or.inl hu)]; rfl, moved_put c s fs "!!str" st⟩

/-- does the subject carry the scalar `want` in `field`?  (what `Lookup(field), Match(want)` decides on a mapping) -/
def Carries (field want : String) (fs : Fields) : Prop :=
  ∃ t st, fieldGet field fs = some (.scalar t want st) ∧ t ≠ "!!null"

/-- … or certainly not: the field is absent, null, or a scalar with another text -/
def CarriesNot (field want : String) (fs : Fields) : Prop :=
  fieldGet field fs = none ∨ ∃ t v st, fieldGet field fs = some (.scalar t v st) ∧ (t = "!!null" ∨ v ≠ want)

/-- the test on a mapping reads the field: absent says no, a scalar says yes exactly if it is not null and has the text,
    a collection there is an error -/
theorem subjectHas_map (q : String → Bool) (field want : String) (hp : Plain field) (s : Nat) (fs : Fields) :
    subjectHas q field want (.map s fs) =
      match fieldGet field fs with
      | none => .ok false
      | some (.scalar t v _) => .ok (decide (t ≠ "!!null" ∧ v = want))
      | some _ => .err "kind" := by
  unfold subjectHas
  rw [lookup_plain_nocreate q hp]
  cases fieldGet field fs with
  | none => rfl
  | some x =>
    cases x with
    | scalar t v st =>
      by_cases ht : t = "!!null"
      · simp [fieldMatcher, isMissingOrNull, ht]
      · by_cases hv : v = want <;> simp [fieldMatcher, isMissingOrNull, ht, hv]
    | _ => rfl

theorem subjectHas_yes (q : String → Bool) {field want : String} (hp : Plain field) (s : Nat) {fs : Fields}
    (h : Carries field want fs) : subjectHas q field want (.map s fs) = .ok true := by
  obtain ⟨t, st, hg, ht⟩ := h
  simp [subjectHas_map q field want hp, hg, ht]

theorem subjectHas_no (q : String → Bool) {field want : String} (hp : Plain field) (s : Nat) {fs : Fields}
    (h : CarriesNot field want fs) : subjectHas q field want (.map s fs) = .ok false := by
  rcases h with hg | ⟨t, v, st, hg, ht | hv⟩ <;> simp [subjectHas_map q field want hp, *]

/-- **default mode: subjects named `default` move.**  In the default subject mode (unspecified / defaultOnly) a
    subject whose `name` is the scalar `default` gets the directive's namespace — created if absent, overwritten if
    present — and keeps every other field. -/
theorem subject_named_default_moves (q : String → Bool) (c : Cfg) (hm : c.mode = 0) (hu : c.unsetOnly = false)
    (s : Nat) (fs : Fields) (hname : Carries "name" "default" fs) (hns : NsWritable fs) :
    ∃ o', visitSubject q c (.map s fs) = .ok o' ∧ Moved c s fs o' := by
  unfold visitSubject
  simp only [hm, show (0 : Nat) ≠ 2 by decide, if_false, subjectHas_yes q plain_name s hname]
  exact setNamespaceField_moves q c hu s fs hns

/-- … **and no other subject is touched** in that mode, whatever its kind -/
theorem subject_not_default_untouched (q : String → Bool) (c : Cfg) (hm : c.mode = 0)
    (s : Nat) (fs : Fields) (hname : CarriesNot "name" "default" fs) :
    visitSubject q c (.map s fs) = .ok (.map s fs) := by
  unfold visitSubject
  simp only [hm, show (0 : Nat) ≠ 2 by decide, if_false, subjectHas_no q plain_name s hname]

/-- **all-service-accounts mode: every ServiceAccount subject moves**, whatever its name … -/
theorem service_account_subject_moves (q : String → Bool) (c : Cfg) (hm : c.mode = 2) (hu : c.unsetOnly = false)
    (s : Nat) (fs : Fields) (hkind : Carries "kind" "ServiceAccount" fs) (hns : NsWritable fs) :
    ∃ o', visitSubject q c (.map s fs) = .ok o' ∧ Moved c s fs o' := by
  unfold visitSubject
  simp only [hm, if_true, subjectHas_yes q plain_kind s hkind]
  exact setNamespaceField_moves q c hu s fs hns

/-- … and users, groups and subjects without a kind are left alone -/
theorem other_kind_subject_untouched (q : String → Bool) (c : Cfg) (hm : c.mode = 2)
    (s : Nat) (fs : Fields) (hkind : CarriesNot "kind" "ServiceAccount" fs) :
    visitSubject q c (.map s fs) = .ok (.map s fs) := by
  unfold visitSubject
  simp only [hm, if_true, subjectHas_no q plain_kind s hkind]

/-- **mode `none` changes no role binding** -/
theorem no_subjects_mode_noop (q : String → Bool) (c : Cfg) (hm : c.mode = 1) (obj : Node) :
    roleBindingHack q c obj = .ok obj := by
  simp [roleBindingHack, hm]

/-- **the subject pass touches `subjects` only, element by element**: when it succeeds on a binding, every other
    field of the binding is as before, the list keeps its length and order, and each element is what the visitor of
    the mode makes of it (so, by the theorems above: moved, or untouched). -/
theorem roleBindingHack_frame (q : String → Bool) (c : Cfg) (ms : Nat) (fs : Fields) (o' : Node)
    (h : roleBindingHack q c (.map ms fs) = .ok o') :
    ∃ fs', o' = .map ms fs' ∧ (∀ k, k ≠ "subjects" → fieldGet k fs' = fieldGet k fs) ∧
      ∀ s is, fieldGet "subjects" fs = some (.seq s is) → c.mode ≠ 1 →
        ∃ is', fieldGet "subjects" fs' = some (.seq s is') ∧ is'.length = is.length ∧
          ∀ (i : Nat) (e : Node), is[i]? = some e → ∃ e', is'[i]? = some e' ∧ visitSubject q c e = .ok e' := by
  unfold roleBindingHack at h
  by_cases h1 : c.mode = 1
  · rw [if_pos h1] at h; cases h
    exact ⟨fs, rfl, fun _ _ => rfl, fun _ _ _ hc => absurd h1 hc⟩
  by_cases h3 : c.mode ≥ 3
  · rw [if_neg h1, if_pos h3] at h; cases h
  rw [if_neg h1, if_neg h3, lookup_plain_nocreate q plain_subjects] at h
  cases hs : fieldGet "subjects" fs with
  | none => rw [hs] at h; cases h; exact ⟨fs, rfl, fun _ _ => rfl, nofun⟩
  | some subj =>
    rw [hs] at h
    cases subj with
    | scalar t v st =>
      -- a null where the list should be: nothing is done
      dsimp only at h
      split at h <;> cases h
      exact ⟨fs, rfl, fun _ _ => rfl, nofun⟩
    | map s2 f2 => cases h
    | seq s is =>
      simp only [visitAll_eq_filterItems, isNull_seq, Bool.false_eq_true, if_false] at h
      cases hv : FieldSpec.filterItems (visitSubject q c) is with
      | ok is' =>
        rw [hv] at h; cases h
        refine ⟨_, rfl, fun k hk => fieldGet_replace_other _ _ _ _ hk, fun s' is0 hc _ => ?_⟩
        cases hc
        exact ⟨is', fieldGet_replace_same _ _ _ _ hs, FieldSpec.filterItems_spec hv⟩
      | _ => rw [hv] at h; cases h

/-- **cluster-scoped resources receive no namespace**: the metadata pass leaves them alone … -/
theorem cluster_scoped_meta_untouched (q : String → Bool) (c : Cfg) (g v k : String) (obj : Node) :
    metaHack q c true g v k obj = .ok obj := by
  simp [metaHack]

/-- the `metadata/namespace` entries of the configuration are never applied generically (only through the
    scope-aware metadata pass) -/
theorem dropMeta_no_meta_namespace (av : String) (fs : List Gen.FieldSpec) :
    ∀ f ∈ dropMeta av fs, f.path ≠ "metadata/namespace" := by
  intro f hf
  simp [dropMeta] at hf
  exact hf.2.1

/-- **a namespaced resource moves**: for a resource that is not cluster-scoped and has a `metadata` mapping, the
    metadata pass sets `metadata.namespace` to the directive's namespace — created if absent, overwritten if present
    (null included) — and leaves every other field of the metadata, and every other field of the resource, alone -/
theorem meta_namespace_moves (q : String → Bool) (c : Cfg) (hu : c.unsetOnly = false) (g v k : String)
    (s : Nat) (fs : Fields) (ms : Nat) (mfs : Fields) (hmeta : fieldGet "metadata" fs = some (.map ms mfs))
    (hns : NsWritable mfs) :
    ∃ m', metaHack q c false g v k (.map s fs) = .ok (.map s (fieldReplace "metadata" m' fs)) ∧ Moved c ms mfs m' := by
  obtain ⟨t, v', st, ht⟩ := hns.target
  -- a null found at `namespace` is retyped before the setter sees it: still a scalar
  obtain ⟨t2, hrt⟩ : ∃ t2, FieldSpec.retype 1 "" (.scalar t v' st) = .scalar t2 v' st := by
    unfold FieldSpec.retype; split
    · exact ⟨"", rfl⟩
    · exact ⟨t, rfl⟩
  refine ⟨_, ?_, moved_put c ms mfs "!!str" st⟩
  -- two steps of the filter: through the existing `metadata` mapping, then the write at `namespace`
  rw [metaHack_namespaced,
    FieldSpec.filter_map_create segment_metadata (by simp), FieldSpec.stepMode_mid (by simp), hmeta,
    Option.getD_some, FieldSpec.retype_of_not_null _ _ rfl,
    FieldSpec.filter_map_create segment_namespace (by simp), FieldSpec.stepMode_last (by simp),
    FieldSpec.filter_nil]
  simp [emptyOfKind, ht, hrt, setFn_scalar q c t2 v' st (Or.inl hu), fieldPut_of_some hmeta]

theorem applySpecs_nomatch (q : String → Bool) (c : Cfg) (g v k : String) : ∀ (l : List Gen.FieldSpec) (obj : Node),
    (∀ f ∈ l, FieldSpec.matchGVK f g v k = false) → applySpecs q c g v k l obj = .ok obj := by
  intro l
  induction l with
  | nil => intro obj _; rfl
  | cons f fs ih =>
    intro obj h
    have hf : FieldSpec.apply q (setFn q c) f { kind := 1, tag := "!!str" } g v k obj = .ok obj := by
      simp [FieldSpec.apply, h f (by simp)]
    simp only [applySpecs, hf]
    exact ih obj (fun x hx => h x (by simp [hx]))

/-- **… and nothing else happens to it**: for a resource that is no role binding and whose kind none of the remaining
    configured field specs names, the whole filter is the metadata pass (with the two theorems above: a namespaced
    resource ends in the directive's namespace with everything else as before, a cluster-scoped one is unchanged) -/
theorem run_is_meta_pass (q : String → Bool) (c : Cfg) (cluster : Bool) (av g v k : String) (obj : Node)
    (hk : isRoleBinding k = false) (hs : ∀ f ∈ dropMeta av c.specs, FieldSpec.matchGVK f g v k = false) :
    run q c cluster av g v k obj = metaHack q c cluster g v k obj := by
  unfold run
  simp only [hk, Bool.false_eq_true, if_false]
  cases hm : metaHack q c cluster g v k obj with
  | err e => rfl
  | panic e => rfl
  | ok o1 => exact applySpecs_nomatch q c g v k _ o1 hs

/-- the hypothesis is met by the built-in namespace configuration (regenerated table) for, e.g., a Deployment -/
example : ∀ f ∈ dropMeta "apps/v1" Gen.namespaceSpecs, FieldSpec.matchGVK f "apps" "v1" "Deployment" = false := by decide +kernel

/-- a cluster-scoped resource that is no role binding and that no remaining field spec matches is returned exactly as
    it came (with the built-in table some spec always remains, so it is the match that decides) -/
theorem cluster_scoped_untouched_of_nomatch (q : String → Bool) (c : Cfg) (av g v k : String) (obj : Node)
    (hk : isRoleBinding k = false) (hs : ∀ f ∈ dropMeta av c.specs, FieldSpec.matchGVK f g v k = false) :
    run q c true av g v k obj = .ok obj := by
  rw [run_is_meta_pass q c true av g v k obj hk hs, cluster_scoped_meta_untouched]

/-- … in particular when no configured field spec remains at all -/
theorem cluster_scoped_untouched (q : String → Bool) (c : Cfg) (av g v k : String) (obj : Node)
    (hk : isRoleBinding k = false) (hs : dropMeta av c.specs = []) :
    run q c true av g v k obj = .ok obj :=
  cluster_scoped_untouched_of_nomatch q c av g v k obj hk (by simp [hs])

/-- **unsetOnly never overwrites**: a scalar that already has a value is kept as it is -/
theorem unset_only_keeps (q : String → Bool) (c : Cfg) (hu : c.unsetOnly = true) (t v : String) (st : Nat)
    (ht : (t == "!!null") = false) (hv : v ≠ "") : setFn q c (.scalar t v st) = .ok (.scalar t v st) := by
  apply setFn_keeps q c _ hu
  simp [hasExisting, nilOrEmpty, ht, hv]

/-- the premises are satisfiable and the modes differ on a real binding -/
example :
    let q : String → Bool := fun _ => false
    let sub (k n : String) : Node := .map 0 [("kind", .scalar "!!str" k 0), ("name", .scalar "!!str" n 0)]
    let moved (k n : String) : Node := .map 0 [("kind", .scalar "!!str" k 0), ("name", .scalar "!!str" n 0), ("namespace", .scalar "!!str" "prod" 0)]
    let rb : Node := .map 0 [("kind", .scalar "!!str" "RoleBinding" 0),
      ("subjects", .seq 0 [sub "ServiceAccount" "default", sub "ServiceAccount" "builder", sub "User" "default"])]
    roleBindingHack q ⟨"prod", false, 0, []⟩ rb = .ok (.map 0 [("kind", .scalar "!!str" "RoleBinding" 0),
      ("subjects", .seq 0 [moved "ServiceAccount" "default", sub "ServiceAccount" "builder", moved "User" "default"])]) ∧
    roleBindingHack q ⟨"prod", false, 2, []⟩ rb = .ok (.map 0 [("kind", .scalar "!!str" "RoleBinding" 0),
      ("subjects", .seq 0 [moved "ServiceAccount" "default", moved "ServiceAccount" "builder", sub "User" "default"])]) := by
  decide +kernel

end Kust.C09
