/-
  C12 (termination clause: "never … a hang") — the expansion of CRD type definitions into field specs ends, for every
  set of type definitions, recursive ones included; before fix C12-F17 it did not.
  Theorems about `Kust.CrdConfig`, the model of loadconfigfromcrds.go, tied by the correspondence `crd.config`
  (through the verif-tagged hook `krusty.VerifCrdConfig`).
-/
import Kust.CrdConfig
namespace Kust.C12
open Kust CrdConfig

/-- the types that can still be entered: keys of the definitions that are not on the current path -/
def rem (m : Types) (onPath : List String) : Nat := ((m.map (·.1)).filter (fun k => decide (k ∉ onPath))).length

theorem findT_mem (m : Types) (t : String) (ps : List P) (h : findT m t = some ps) : t ∈ m.map (·.1) := by
  obtain ⟨e, hf, -⟩ := Option.map_eq_some_iff.mp h
  exact List.mem_map.mpr ⟨e, List.mem_of_find?_eq_some hf, by simpa using List.find?_some hf⟩

/-- entering a type that is defined and not yet on the path leaves fewer types to enter: the new filter is the old
    one with `t` taken out as well, and `t` was in it -/
theorem rem_cons_lt (m : Types) (onPath : List String) (t : String) (ps : List P) (h : findT m t = some ps)
    (hn : onPath.contains t = false) : rem m (t :: onPath) < rem m onPath := by
  have e : (m.map (·.1)).filter (fun k => decide (k ∉ t :: onPath)) =
      ((m.map (·.1)).filter (fun k => decide (k ∉ onPath))).filter (fun k => decide (k ≠ t)) := by
    rw [List.filter_filter]; congr 1; funext k; simp
  unfold rem
  rw [e]
  exact List.length_filter_lt_length_iff_exists.mpr
    ⟨t, List.mem_filter.mpr ⟨findT_mem m t ps h, by simpa using hn⟩, by simp⟩

theorem rem_le (m : Types) (onPath : List String) : rem m onPath ≤ m.length := by
  unfold rem
  calc _ ≤ (m.map (·.1)).length := List.length_filter_le _ _
    _ = m.length := by simp

/-- one more unit of fuel changes nothing once the fuel exceeds the number of types that can still be entered -/
theorem expand_succ (m : Types) (kind : String) (f : Nat) (onPath : List String) (t : String) (path : List String)
    (h : f ≥ rem m onPath + 1) : expand m kind (f + 1) onPath t path = expand m kind f onPath t path := by
  fun_induction expand m kind f onPath t path with
  | case1 => cases h
  | case2 f onPath t path hf => rw [expand, hf]                          -- `t` is not defined
  | case3 f onPath t path ps hf hc => rw [expand, hf]; exact if_pos hc   -- `t` is on the path
  | case4 f onPath t path ps hf hc ih =>
    -- `t` is entered: below it one type fewer can be entered, and there is one unit of fuel less
    rw [expand, hf]
    refine (if_neg hc).trans ?_
    have hlt := rem_cons_lt m onPath t ps hf (by simpa using hc)
    congr 1
    funext p
    congr 1
    cases p.ref with
    | none => rfl
    | some r => exact ih p r (Nat.lt_of_lt_of_le hlt (Nat.le_of_succ_le_succ h))

/-- every fuel above the number of types that can still be entered gives the same expansion — at any point of the
    recursion, not only at the root -/
theorem expand_stable (m : Types) (kind : String) (onPath : List String) (t : String) (path : List String) (f : Nat)
    (hf : f ≥ rem m onPath + 1) : expand m kind f onPath t path = expand m kind (rem m onPath + 1) onPath t path := by
  induction hf with
  | refl => rfl
  | step hf ih => rw [expand_succ m kind _ onPath t path hf, ih]

/-- **the expansion ends**: whatever the type definitions — types that refer to themselves, to each other, to types
    that do not exist — the result is the same for every fuel above the number of definitions: no expansion path is
    longer than the number of types, so the recursion of the code (which has no fuel) returns -/
theorem crd_expansion_terminates (m : Types) (kind t : String) (k : Nat) :
    expand m kind (m.length + 1 + k) [] t [] = expand m kind (m.length + 1) [] t [] := by
  have h : m.length + 1 ≥ rem m [] + 1 := Nat.succ_le_succ (rem_le m [])
  rw [expand_stable m kind [] t [] _ (Nat.le_add_right_of_le h), expand_stable m kind [] t [] _ h]

/-- the self-referring type of finding C12-F17 -/
def selfRef : Types := [("example.com/v1.Node", [⟨"child", true, false, false, none, some "example.com/v1.Node"⟩])]

/-- **before the fix nothing sufficed**: on the self-referring type every extra unit of fuel yields one more field
    spec (`child`, `child/child`, …) — the recursion of the old code never returned (fatal stack overflow) -/
theorem Witness.old_expansion_unbounded : ∀ (f : Nat) (path : List String),
    (expandOld selfRef "Node" f "example.com/v1.Node" path).length = f := by
  intro f
  induction f with
  | zero => intro path; rfl
  | succ f ih =>
    intro path
    have hf : findT selfRef "example.com/v1.Node" = some [⟨"child", true, false, false, none, some "example.com/v1.Node"⟩] := by
      simp [findT, selfRef]
    rw [expandOld, hf]
    simp [propSpecs, ih]

/-- … while the repaired expansion of the same definitions is one spec, for every fuel ≥ 2 -/
example : ∀ k, expand selfRef "Node" (2 + k) [] "example.com/v1.Node" [] = [Spec.anno "Node" "child"] := by
  intro k
  rw [show 2 + k = selfRef.length + 1 + k by simp [selfRef],
    crd_expansion_terminates selfRef "Node" "example.com/v1.Node" k]
  decide +kernel

end Kust.C12
