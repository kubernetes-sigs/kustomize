/-
  C10 (replacement clause, on trees) — theorems about `Kust.ReplTree`, the field-level half of the replacement filter on
  YAML trees (tied to replacement.Filter by the correspondence `repl.tree`): a rewrite at a position changes that
  position only; without creation exactly the positions the path denotes are written and every position apart from
  them keeps its node; a scalar target keeps its tag and style and takes the value's text.
-/
import Kust.ReplTree
import Kust.Props.C14b
namespace Kust.C10
open Kust Node Fns Match Kust.ReplTree

/-- a rewrite at a position is an edit there and nowhere else: every position apart from it still holds the same node -/
theorem modifyAt_ok (f : Node → Out Node) (p : Pos) (d d' : Node) (h : modifyAt f p d = .ok d') : EditedAt f [p] d d' := by
  revert d'
  fun_induction modifyAt f p d
  case case1 => exact fun _ h => .here h
  case case2 hx _ hm ih => intro _ h; cases h; exact .key hx (ih _ hm)  -- a field, put back by `fieldReplace`
  case case6 hx _ hm ih => intro _ h; cases h; exact .idx hx (ih _ hm)  -- an element, put back by `set`
  all_goals intro _ h; cases h

/-- writing a list of mutually apart positions edits the document at them: each ends up holding what `setFieldValue`
    makes of the node that was there, every position apart from them keeps its node -/
theorem writeAll_edits (o : Option Opts) (value : Node) (ps : List Pos) (d d' : Node) (hpw : ps.Pairwise Apart)
    (h : writeAll o value ps d = .ok d') : EditedAt (setFieldValue o · value) ps d d' := by
  revert d'
  fun_induction writeAll o value ps d
  case case1 d => intro _ h; cases h; exact .none d
  case case2 p ps d d1 h1 ih =>
    intro d' h
    obtain ⟨hp, hps⟩ := List.pairwise_cons.mp hpw
    exact (modifyAt_ok _ p d d1 h1).cons (ih hps d' h) hp
  all_goals intro _ h; cases h

/-- `setFieldValue` on a scalar target without a delimiter: only the TEXT changes — tag and style of the target stay -/
theorem setFieldValue_scalar (o : Option Opts) (hd : ∀ o', o = some o' → o'.delim = "") (t v : String) (s : Nat) (value : Node) :
    setFieldValue o (.scalar t v s) value = .ok (.scalar t value.valueText s) := by
  unfold setFieldValue
  cases o with
  | none => simp
  | some o' => simp [hd o' rfl]

/-- on a map or list target without a delimiter the target becomes the value -/
theorem setFieldValue_nonscalar (o : Option Opts) (hd : ∀ o', o = some o' → o'.delim = "") (target value : Node)
    (ht : ∀ t v s, target ≠ .scalar t v s) : setFieldValue o target value = .ok value := by
  unfold setFieldValue
  cases target with
  | scalar t v s => exact absurd rfl (ht t v s)
  | _ =>
    cases o with
    | none => simp
    | some o' => simp [hd o' rfl]

theorem pairwise_map_cons (a : Step) (l : List Pos) (h : l.Pairwise Apart) : (l.map (a :: ·)).Pairwise Apart :=
  List.pairwise_map.mpr (h.imp fun hpq => (apart_cons_cons a a _ _).mpr (Or.inr hpq))

theorem denoteElems_pairwise {sel : Node → Bool} {sub : Node → List Pos} (hsub : ∀ e, (sub e).Pairwise Apart) :
    ∀ (is : List Node) (i : Nat), (denoteElems sel sub i is).Pairwise Apart
  | [], _ => .nil
  | e :: es, i => by
    refine List.pairwise_append.mpr ⟨?_, denoteElems_pairwise hsub es (i + 1), fun p hp q hq => ?_⟩
    · split
      · exact pairwise_map_cons _ _ (hsub e)
      · exact .nil
    · -- the element's own positions start with `i`, the later ones with a larger index
      obtain ⟨j, _, _, -, -, -, rfl⟩ := denoteElems_mem es (i + 1) hq
      split at hp
      · obtain ⟨_, -, rfl⟩ := List.mem_map.mp hp
        exact (apart_cons_cons _ _ _ _).mpr (Or.inl fun e => by injection e; omega)
      · cases hp

/-- the positions a path denotes never lie on one another's way -/
theorem denote_pairwise (hitB : String → Node → Bool) : ∀ (p : List String) (d : Node), (denote hitB p d).Pairwise Apart :=
  denote_induct hitB (fun _ ps => ps.Pairwise Apart) (fun _ => .nil) (fun _ => List.pairwise_singleton _ _)
    (fun _ h => pairwise_map_cons _ _ h)
    fun hsub _ is => denoteElems_pairwise hsub is 0

/-- without creation `copyValueToTarget` for one field path writes the positions the path denotes -/
theorem copyOne_nocreate {hitB : String → Node → Bool} {ns : String → Bool} {o : Option Opts}
    (hc : ∀ o', o = some o' → o'.create = false) {value : Node} {path : List String} (hp : "" ∉ path) {doc d' : Node}
    (h : copyOne (fun a b => .ok (hitB a b)) ns o value path doc = .ok d') :
    writeAll o value (denote hitB path doc) doc = .ok d' := by
  have hck : createKind o value = 0 := by
    cases o with
    | none => rfl
    | some o' => simp [createKind, hc o' rfl]
  revert h
  fun_cases copyOne (fun a b => .ok (hitB a b)) ns o value path doc
  case case2 dm ps hm _ =>
    -- the matcher returns the document as it was, with the positions the path denotes
    rw [hck] at hm
    cases Kust.C14.match_nocreate_doc _ ns path doc dm ps hm
    cases Kust.C14.match_denotes hitB ns path hp _ _ ps hm
    exact id
  all_goals intro h; cases h

/-- … hence edits the document at them -/
theorem copyOne_edits {hitB : String → Node → Bool} {ns : String → Bool} {o : Option Opts}
    (hc : ∀ o', o = some o' → o'.create = false) {value : Node} {path : List String} (hp : "" ∉ path) {doc d' : Node}
    (h : copyOne (fun a b => .ok (hitB a b)) ns o value path doc = .ok d') :
    EditedAt (setFieldValue o · value) (denote hitB path doc) doc d' :=
  writeAll_edits o value _ doc d' (denote_pairwise hitB path doc) (copyOne_nocreate hc hp h)

/-- **exactly the denoted fields are written.** One target field path without creation: when `copyValueToTarget`
    succeeds, every position of the target resource that is apart from all positions the path denotes still holds the
    node it held — whatever the value, the options and the document. -/
theorem copyOne_frame (hitB : String → Node → Bool) (ns : String → Bool) (o : Option Opts)
    (hc : ∀ o', o = some o' → o'.create = false) (value : Node) (path : List String) (hp : "" ∉ path) (doc d' : Node)
    (h : copyOne (fun a b => .ok (hitB a b)) ns o value path doc = .ok d') :
    ∀ q, (∀ p ∈ denote hitB path doc, Apart p q) → getAt q d' = getAt q doc :=
  (copyOne_edits hc hp h).2.1

/-- **verbatim into exactly the selected fields.** One target field path, no creation, no delimiter: after
    `copyValueToTarget` EVERY scalar field the path denotes holds the value's text (with the field's own tag and style),
    and (by `copyOne_frame`) every position apart from the denoted ones is untouched. -/
theorem copyOne_every_scalar (hitB : String → Node → Bool) (ns : String → Bool) (o : Option Opts)
    (hc : ∀ o', o = some o' → o'.create = false) (hd : ∀ o', o = some o' → o'.delim = "")
    (value : Node) (path : List String) (hp : "" ∉ path) (doc d' : Node)
    (h : copyOne (fun a b => .ok (hitB a b)) ns o value path doc = .ok d') :
    ∀ p ∈ denote hitB path doc, ∀ t v s, getAt p doc = some (.scalar t v s) →
      getAt p d' = some (.scalar t value.valueText s) := by
  intro p hpm t v s hat
  obtain ⟨t0, t', e1, e2, e3⟩ := (copyOne_edits hc hp h).1 p hpm
  rw [hat] at e1; cases e1
  dsimp only at e2
  rw [setFieldValue_scalar o hd] at e2
  cases e2
  exact e3

/-- a single denoted scalar field, no delimiter: afterwards it holds the value's text, with its own tag and style -/
theorem copyOne_single_scalar (hitB : String → Node → Bool) (ns : String → Bool) (o : Option Opts)
    (hc : ∀ o', o = some o' → o'.create = false) (hd : ∀ o', o = some o' → o'.delim = "")
    (value : Node) (path : List String) (hp : "" ∉ path) (doc d' : Node) (p : Pos) (t v : String) (s : Nat)
    (hden : denote hitB path doc = [p]) (hat : getAt p doc = some (.scalar t v s))
    (h : copyOne (fun a b => .ok (hitB a b)) ns o value path doc = .ok d') :
    getAt p d' = some (.scalar t value.valueText s) :=
  copyOne_every_scalar hitB ns o hc hd value path hp doc d' h p (by simp [hden]) t v s hat

/-- the premises are satisfiable: `spec.containers.[name=a].image` in a two-container list denotes one scalar -/
example :
    let hitB : String → Node → Bool := fun pat n => match n with | .scalar _ v _ => v = pat | _ => false
    let doc : Node := .map 0 [("spec", .map 0 [("containers", .seq 0 [
      .map 0 [("name", .scalar "!!str" "a" 0), ("image", .scalar "!!str" "old" 2)],
      .map 0 [("name", .scalar "!!str" "b" 0), ("image", .scalar "!!str" "keep" 0)]])])]
    denote hitB ["spec", "containers", "[name=a]", "image"] doc = [[.key "spec", .key "containers", .idx 0, .key "image"]] ∧
    copyOne (fun a b => .ok (hitB a b)) (fun _ => false) none (.scalar "!!str" "new" 0) ["spec", "containers", "[name=a]", "image"] doc
      = .ok (.map 0 [("spec", .map 0 [("containers", .seq 0 [
          .map 0 [("name", .scalar "!!str" "a" 0), ("image", .scalar "!!str" "new" 2)],
          .map 0 [("name", .scalar "!!str" "b" 0), ("image", .scalar "!!str" "keep" 0)]])])]) := by decide +kernel

end Kust.C10
