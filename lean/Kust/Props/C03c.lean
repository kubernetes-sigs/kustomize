/-
  C03 (candidate clause) — which resources a referrer may name.  Theorems about `Kust.Subset.subset`, the model of
  `SubsetThatCouldBeReferencedByResource` (after fix C03-F1), tied by the correspondence `resmap.subset`.
-/
import Kust.Subset
namespace Kust.C03
open Kust Kust.Res Kust.Subset

variable (cs : Gvk → Bool)

/-- exact characterisation of the candidate subset -/
theorem subset_mem (referrer : ResId) (subjects : List Subject) (m : List ResId) (t : ResId) :
    t ∈ subset cs referrer subjects m ↔
      t ∈ m ∧ (cs referrer.gvk = true ∨ cs t.gvk = true ∨ effNs cs t = effNs cs referrer ∨
        t.ns ∈ roleBindingNamespaces referrer.gvk.kind subjects ∨
        effNs cs t ∈ roleBindingNamespaces referrer.gvk.kind subjects) := by
  unfold subset
  by_cases hc : cs referrer.gvk = true
  · simp [hc]
  · simp [hc, List.mem_filter, or_assoc]

/-- the subset keeps the order of the resource map and adds nothing -/
theorem subset_sublist (referrer : ResId) (subjects : List Subject) (m : List ResId) :
    (subset cs referrer subjects m).Sublist m := by
  unfold subset
  split
  · exact List.Sublist.refl m
  · exact List.filter_sublist

/-- a cluster-scoped referrer may name anything -/
theorem cluster_referrer_sees_all (referrer : ResId) (subjects : List Subject) (m : List ResId)
    (h : cs referrer.gvk = true) : subset cs referrer subjects m = m := by
  simp [subset, h]

/-- a resource of the referrer's own (effective) namespace is always a candidate: `""` and `default` are one namespace -/
theorem same_namespace_candidate (referrer : ResId) (subjects : List Subject) (m : List ResId) (t : ResId)
    (ht : t ∈ m) (hn : effNs cs t = effNs cs referrer) : t ∈ subset cs referrer subjects m :=
  (subset_mem cs referrer subjects m t).2 ⟨ht, Or.inr (Or.inr (Or.inl hn))⟩

/-- **a subject's account is a candidate** (C03-F1): for a RoleBinding anywhere, an account in the namespace a
    ServiceAccount subject spells out is a candidate — also when the account itself is written without a namespace
    and the subject says `default` -/
theorem subject_account_candidate (referrer : ResId) (subjects : List Subject) (m : List ResId) (t : ResId) (n : String)
    (hk : referrer.gvk.kind = "RoleBinding") (hs : ("ServiceAccount", some n) ∈ subjects)
    (ht : t ∈ m) (hn : t.ns = n ∨ effNs cs t = n) : t ∈ subset cs referrer subjects m := by
  have hmem : n ∈ roleBindingNamespaces referrer.gvk.kind subjects := by
    simp only [roleBindingNamespaces, hk, ne_eq, not_true_eq_false, if_false, List.mem_filterMap]
    exact ⟨("ServiceAccount", some n), hs, by simp⟩
  refine (subset_mem cs referrer subjects m t).2 ⟨ht, ?_⟩
  rcases hn with h | h
  · exact Or.inr (Or.inr (Or.inr (Or.inl (h ▸ hmem))))
  · exact Or.inr (Or.inr (Or.inr (Or.inr (h ▸ hmem))))

/-- a namespaced resource of ANOTHER namespace that no subject names is not a candidate -/
theorem other_namespace_excluded (referrer : ResId) (subjects : List Subject) (m : List ResId) (t : ResId)
    (h1 : cs referrer.gvk = false) (h2 : cs t.gvk = false) (h3 : effNs cs t ≠ effNs cs referrer)
    (h4 : t.ns ∉ roleBindingNamespaces referrer.gvk.kind subjects)
    (h5 : effNs cs t ∉ roleBindingNamespaces referrer.gvk.kind subjects) : t ∉ subset cs referrer subjects m := by
  simp [subset_mem, h1, h2, h3, h4, h5]

/-- the situation of C03-F1: binding in `ns2`, subject `{ServiceAccount app, namespace: default}`, account `app` without a namespace -/
example :
    let cs : Gvk → Bool := fun _ => false
    let rb : ResId := ⟨⟨"rbac.authorization.k8s.io", "v1", "RoleBinding"⟩, "rb", "ns2"⟩
    let sa : ResId := ⟨⟨"", "v1", "ServiceAccount"⟩, "app", ""⟩
    let other : ResId := ⟨⟨"", "v1", "ServiceAccount"⟩, "app", "ns3"⟩
    subset cs rb [("ServiceAccount", some "default"), ("User", none)] [sa, other] = [sa] := by decide +kernel

end Kust.C03
