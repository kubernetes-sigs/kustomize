/-
  C13 — YAML streams round-trip; package writes stay inside the package.  PARTIAL: preservation of data and
  comments BY go-yaml is assumed (sampled by the oracle), not proved.
  * `split_lossless`: splitting a stream into documents and separators loses no byte (for every stream);
  * `pkg_write_confined`: for EVERY path annotation value that passes the writer's checks the written file lies
    below the package directory; values that are absolute or contain `..` after cleaning are rejected.
-/
import Kust.Kio
namespace Kust.C13
open Kust Kio Path

theorem untilNewline_spec (cs line rest : List Char) (h : untilNewline cs = some (line, rest)) :
    cs = line ++ '\n' :: rest := by
  fun_induction untilNewline cs generalizing line with
  | case1 => cases h
  | case2 r => cases h; rfl
  | case3 c r hc ih =>
    obtain ⟨⟨a, b⟩, hu, hab⟩ := Option.map_eq_some_iff.mp h
    cases hab
    rw [ih _ hu]; rfl

theorem startsSep_spec (cs r : List Char) (h : startsSep cs = some r) : cs = '\n' :: '-' :: '-' :: '-' :: r := by
  revert h
  fun_cases startsSep cs <;> simp

/-- what the scan has produced and will produce, put back in order, is the open document followed by the rest of the text -/
theorem scan_flatten (f : Nat) (cs cur : List Char) : flatten (scan f cs cur) = cur.reverse ++ cs := by
  fun_induction scan f cs cur
  case case1 | case2 => simp [flatten]
  case case3 hs _ _ hu ih =>    -- a separator line
    simp [flatten, ih, startsSep_spec _ _ hs, untilNewline_spec _ _ _ hu]
  case case4 ih | case5 ih => simp [ih]    -- no separator line here: the character joins the open document

/-- documents and separators, put back in order, are the original stream -/
theorem split_lossless (s : List Char) : flatten (pieces s) = s := by
  simp [pieces, scan_flatten]

/-! ### package writes -/

theorem dotdot_stays (segs acc : List String) (h : ".." ∈ acc) : ".." ∈ cleanSegs false acc segs := by
  fun_induction cleanSegs false acc segs
  case case1 => simpa using h
  case case2 ih => exact ih h                                                          -- "" or "."
  case case3 => contradiction                                                          -- the branch of absolute paths
  case case4 ih => exact ih (by simp)                                                  -- ".." with nothing to pop is kept
  case case5 ih => exact ih (by simp)                                                  -- ".." on ".." is kept
  case case6 ha _ ih => exact ih ((List.mem_cons.mp h).resolve_left (Ne.symm ha))      -- ".." pops a name
  case case7 ih => exact ih (List.mem_cons_of_mem _ h)                                 -- a name is pushed

/-- cleaning below a base directory: if the relative spelling never climbs out (its cleaned form has no `..`
    segment), cleaning it on top of `base` leaves `base` untouched underneath -/
theorem cleanSegs_base (segs acc base : List String) (hno : ".." ∉ cleanSegs false acc segs) :
    cleanSegs true (acc ++ base) segs = base.reverse ++ cleanSegs false acc segs := by
  -- the two cleanings differ only at a ".." that finds nothing to pop, and that one stays in the result
  fun_induction cleanSegs false acc segs
  case case1 => simp [cleanSegs]
  case case2 hs ih => simp only [cleanSegs, hs, if_true]; exact ih hno                  -- "" or "."
  case case3 => contradiction                                                          -- the branch of absolute paths
  case case4 => exact absurd (dotdot_stays _ [".."] (by simp)) hno                      -- ".." with nothing to pop
  case case5 => exact absurd (dotdot_stays _ _ (by simp)) hno                           -- ".." on ".."
  case case6 ha hd ih =>                                                               -- ".." pops a name
    simp only [List.cons_append, cleanSegs, hd, ha, if_false, if_true]; exact ih hno
  case case7 h1 h2 ih => simp only [cleanSegs, h1, h2, if_false]; exact ih hno          -- a name is pushed

theorem not_containsDotDot_ne (s : String) (h : containsDotDot s.toList = false) : s ≠ ".." := by
  intro e; subst e; simp [containsDotDot] at h

/-- where an accepted path is written: its cleaned relative spelling, appended to the package directory -/
theorem pkgTarget_eq (pkg : List String) (path : String) (h : pkgPathOk path = true) :
    pkgTarget pkg path = pkg ++ cleanSegs false [] (segments path) := by
  simp only [pkgPathOk, Bool.and_eq_true, Bool.not_eq_true', List.any_eq_false, Bool.not_eq_true] at h
  have hno : ".." ∉ cleanSegs false [] (segments path) := fun hm => not_containsDotDot_ne ".." (h.2 ".." hm) rfl
  simpa [pkgTarget] using cleanSegs_base (segments path) [] pkg.reverse hno

/-- whatever the path annotation says — absolute, `../..`, `a/../../b`, anything — if the
    writer accepts it, the file it writes lies below the package directory. -/
theorem pkg_write_confined (pkg : List String) (path : String) (h : pkgPathOk path = true) :
    pkg <+: pkgTarget pkg path :=
  pkgTarget_eq pkg path h ▸ List.prefix_append _ _

/-- absolute path annotations are always rejected -/
theorem pkg_rejects_absolute (path : String) (h : isAbs path = true) : pkgPathOk path = false := by
  simp [pkgPathOk, h]

/-- kernel-evaluated instances of the writer's verdict -/
example : pkgPathOk "a/b.yaml" = true ∧ pkgPathOk "../x.yaml" = false ∧ pkgPathOk "a/../../x.yaml" = false ∧
    pkgPathOk "/etc/passwd" = false ∧ pkgPathOk "a/../b.yaml" = true ∧ pkgPathOk "a..b.yaml" = false := by decide +kernel

/-- the read-writer deletes `files(read) \ files(written)`: as long as the paths recorded at READ time are the ones
    the reader stamped (relative, inside the package: `pkgPathOk`), every deletion is below the package directory —
    whatever annotations the written resources carry.  (The hypothesis is what `OmitReaderAnnotations` must not defeat:
    seeded change C13b forwards that option and the oracle's read-write mode catches it.) -/
theorem pkg_delete_confined (pkg : List String) (files newFiles : List String)
    (h : ∀ f ∈ files, pkgPathOk f = true) :
    ∀ f ∈ files.filter (fun x => !newFiles.contains x), pkg <+: pkgTarget pkg f := by
  intro f hf
  exact pkg_write_confined pkg f (h f (List.mem_filter.mp hf).1)

/-! ### writer and reader agree on the document boundaries -/

theorem startsSep_append (x t : List Char) (hx : x ≠ []) (h : startsSep x = none) : startsSep (x ++ '\n' :: t) = none := by
  refine Option.eq_none_iff_forall_ne_some.mpr fun r hs => ?_
  -- the three dashes of a separator found come before the line break appended, so it lies within `x`
  have e := startsSep_spec _ _ hs
  rcases x with _ | ⟨a, _ | ⟨b, _ | ⟨c, _ | ⟨d, y⟩⟩⟩⟩
  · exact hx rfl
  · cases e
  · cases e
  · cases e
  · cases e; cases h

/-- a text without separator is passed over, one unit of fuel per character -/
theorem scan_body (b : List Char) (g : Nat) (cur t : List Char) (hb : noSep b = true) :
    scan (b.length + g) (b ++ '\n' :: t) cur = scan g ('\n' :: t) (b.reverse ++ cur) := by
  induction b generalizing cur with
  | nil => rw [List.length_nil, Nat.zero_add]; rfl
  | cons c r ih =>
    simp only [noSep, Bool.and_eq_true, Option.isNone_iff_eq_none] at hb
    have hs : startsSep (c :: (r ++ '\n' :: t)) = none := startsSep_append (c :: r) t (by simp) hb.1
    -- one step of `scan` at a character where no separator starts, then the rest of `b`
    rw [List.length_cons, Nat.succ_add, List.cons_append, scan, hs, ih (c :: cur) hb.2, List.reverse_cons,
      List.append_assoc]
    rfl

/-- at a `---` line the document read so far ends; the line costs one unit of fuel -/
theorem scan_sep (f : Nat) (t cur : List Char) :
    scan (f + 1) ('\n' :: '-' :: '-' :: '-' :: '\n' :: t) cur =
      .doc cur.reverse :: .sep ['\n', '-', '-', '-', '\n'] :: scan f t [] := rfl

theorem scan_last (f : Nat) (cur : List Char) : scan (f + 1) ['\n'] cur = [.doc (cur.reverse ++ ['\n'])] := by
  cases f <;> simp [scan, startsSep]

theorem emit_length_pos (b : List Char) (r : List (List Char)) : (emit (b :: r)).length ≥ b.length + 1 := by
  cases r <;> simp [emit]

theorem scan_emit (bs : List (List Char)) (f : Nat) (hne : bs ≠ []) (hall : ∀ b ∈ bs, noSep b = true)
    (hf : (emit bs).length < f) : docsOf (scan f (emit bs) []) = readBack bs := by
  fun_induction emit bs generalizing f with
  | case1 => exact absurd rfl hne
  | case2 b =>        -- the last document: no separator up to the end of the text
    obtain ⟨g, rfl⟩ : ∃ g, f = b.length + (g + 1) := ⟨f - b.length - 1, by simp at hf; omega⟩
    rw [scan_body b _ [] [] (hall b List.mem_cons_self), scan_last, List.append_nil, List.reverse_reverse]
    rfl
  | case3 b c r ih => -- a document, a `---` line, the other documents
    -- the fuel: one unit per character of `b`, one for the `---` line, and more than the rest of the text is long
    obtain ⟨g, rfl, hg⟩ : ∃ g, f = b.length + (g + 1) ∧ (emit (c :: r)).length < g :=
      ⟨f - b.length - 1, by simp at hf; omega, by simp at hf; omega⟩
    rw [scan_body b _ [] _ (hall b List.mem_cons_self), scan_sep, List.append_nil, List.reverse_reverse, docsOf, docsOf,
      readBack, ih g (List.cons_ne_nil _ _) (fun x hx => hall x (List.mem_cons_of_mem _ hx)) hg]

/-- **what the writer emits, the reader splits back into the same documents**: texts that contain no `\n---` line start,
    written one after the other with `---` lines in between, are split by the reader at exactly these lines — same number
    of documents, same order, same text (the last one keeps its final line break) -/
theorem emit_read_back (bs : List (List Char)) (hne : bs ≠ []) (hall : ∀ b ∈ bs, noSep b = true) :
    docsOf (pieces (emit bs)) = readBack bs :=
  scan_emit bs _ hne hall (Nat.lt_succ_self _)

example : docsOf (pieces (emit ["a: 1".toList, "b: |+\n  x\n\n".toList, "c: 3".toList]))
    = ["a: 1".toList, "b: |+\n  x\n\n".toList, "c: 3\n".toList] := by decide +kernel

end Kust.C13
