/-
  C04 — strategic-merge patches follow the Kubernetes merge rules.
  Model: `Walk.walk` + `Walk.merger` (walker, merge2.Merger, `$patch` detection and elision, ElementSetter,
  FieldSetter), tied to kyaml by component walk.merge2 (aliasing quirks included).  Proved here, for ALL inputs: what
  each merge decision does (the rules of the property, clause by clause) and the behaviour of directive
  detection/elision.  The composition over a whole document — equality
  with the Kubernetes reference, idempotence, frame — is decided by the oracle against
  k8s.io/apimachinery strategicpatch on the real code; kernel-evaluated instances are given as examples.
-/
import Kust.Walk
import Kust.Lemmas.Fields
namespace Kust.C04
open Kust Node Walk Fns

/-! ### directive detection and elision -/

/-- a map without `$patch` is a plain merge and is not edited -/
theorem directive_absent (s : Nat) (fs : Fields) (h : fieldGet "$patch" fs = none) :
    smpDirective (some (.map s fs)) = .ok (.merge, some (.map s fs)) := by
  simp [smpDirective, h]

/-- `$patch: delete|replace|merge` on a map is recognised and elided: the first `$patch` field disappears,
    every other field keeps its value (`fieldGet_erase_other`) -/
theorem directive_map (s : Nat) (fs : Fields) (v : Node) (h : fieldGet "$patch" fs = some v) (hn : v.isNull = false) :
    (v.valueText = "delete" → smpDirective (some (.map s fs)) = .ok (.delete, some (.map s (fieldErase "$patch" fs)))) ∧
    (v.valueText = "replace" → smpDirective (some (.map s fs)) = .ok (.replace, some (.map s (fieldErase "$patch" fs)))) ∧
    (v.valueText = "merge" → smpDirective (some (.map s fs)) = .ok (.merge, some (.map s (fieldErase "$patch" fs)))) := by
  refine ⟨fun hv => ?_, fun hv => ?_, fun hv => ?_⟩ <;> simp [smpDirective, h, hn, hv]

/-- an unknown directive value is an error of the detection (where the destination is missing, `merger.visitMap`
    discards that error, as merge2.go does: `ps, _ :=`) -/
theorem directive_unknown (s : Nat) (fs : Fields) (v : Node) (h : fieldGet "$patch" fs = some v) (hn : v.isNull = false)
    (h1 : v.valueText ≠ "delete") (h2 : v.valueText ≠ "replace") (h3 : v.valueText ≠ "merge") :
    smpDirective (some (.map s fs)) = .err "directive" := by
  simp [smpDirective, h, hn, h1, h2, h3]

theorem elision_keeps_other_fields (fs : Fields) (k : String) (hk : k ≠ "$patch") :
    fieldGet k (fieldErase "$patch" fs) = fieldGet k fs := fieldGet_erase_other "$patch" k fs hk

/-! ### the merge decisions (one clause of the property each) -/

/-- the node a visitor decision returns -/
def res (r : Out VRes) : Out (Option Node) := r.bind fun x => .ok x.node

/-- scalars: the patch's value replaces the target's -/
theorem scalar_patch_wins (same : Bool) (d : Option Node) (p : Node) :
    res (merger.visitScalar same [d, some p]) = .ok (some p) := rfl

/-- scalars: a field the patch does not mention keeps its value -/
theorem scalar_unmentioned_kept (same : Bool) (d : Option Node) :
    res (merger.visitScalar same [d, none]) = .ok d := rfl

/-- lists without merge key (and lists of kinds without schema): replaced by the patch's list -/
theorem atomic_list_replaced (same : Bool) (d : Option Node) (p : Node) :
    res (merger.visitList same [d, some p] false) = .ok (some p) := rfl

theorem atomic_list_unmentioned_kept (same : Bool) (d : Node) :
    res (merger.visitList same [some d, none] false) = .ok (some d) := rfl

theorem setStyle_isMissingOrNull (d p : Node) :
    isMissingOrNull (setStyle (some d) (some p)) = isMissingOrNull (some d) := by
  cases d with
  | scalar t v s => rfl
  | map s c | seq s c => simp only [setStyle]; split <;> rfl  -- restyled or not, a collection is not null

/-- maps: a `null` in the patch removes the target's map -/
theorem map_null_clears (same : Bool) (d p : Node) (hd : d.isNull = false) (hp : p.isNull = true) :
    res (merger.visitMap same [some d, some p]) = .ok none := by
  have : isMissingOrNull (setStyle (some d) (some p)) = false := (setStyle_isMissingOrNull d p).trans hd
  dsimp only [merger]
  simp [res, src1, dst, this, hp, Out.bind]

/-- a keyed list whose (restyled) destination is present is merged by the rules for maps -/
theorem visitList_keyed (same : Bool) (s : Sources) (h : isMissingOrNull (setStyle (dst s) (src1 s)) = false) :
    merger.visitList same s true = merger.visitMap same s := by
  dsimp only [merger]
  simp [h]

/-- keyed lists: a `null` in the patch removes the list -/
theorem keyed_list_null_clears (same : Bool) (d p : Node) (hd : d.isNull = false) (hp : p.isNull = true) :
    res (merger.visitList same [some d, some p] true) = .ok none := by
  rw [visitList_keyed same [some d, some p] ((setStyle_isMissingOrNull d p).trans hd)]
  exact map_null_clears same d p hd hp

/-- maps: content the target lacks is added from the patch (a patch map without a `$patch` field: nothing to elide) -/
theorem map_added (same : Bool) (s : Nat) (fs : Fields) (h : fieldGet "$patch" fs = none) :
    res (merger.visitMap same [none, some (.map s fs)]) = .ok (some (.map s fs)) := by
  dsimp only [merger]
  simp [res, src1, dst, setStyle, isMissingOrNull, directive_absent s fs h, Out.bind]

/-! ### kernel-evaluated instances of the composed behaviour -/

def o0 : Opts := { infer := false, prepend := true, ns := fun _ => false }
/-- a schema with one keyed list (`containers`, key `name`), one primitive merge list, everything else atomic -/
def sch0 : Schema := fun p =>
  if p = ["spec", "containers"] then some ⟨"merge", ["name"]⟩
  else if p = ["metadata", "finalizers"] then some ⟨"merge", []⟩
  else none

def tgt : Node := .map 0 [
  ("metadata", .map 0 [("finalizers", .seq 0 [.scalar "!!str" "f1" 0])]),
  ("spec", .map 0 [("containers", .seq 0 [
      .map 0 [("name", .scalar "!!str" "a" 0), ("image", .scalar "!!str" "x" 0)],
      .map 0 [("name", .scalar "!!str" "b" 0), ("image", .scalar "!!str" "y" 0)]]),
    ("args", .seq 0 [.scalar "!!str" "1" 2]),
    ("keep", .scalar "!!str" "me" 0)])]

def pat : Node := .map 0 [
  ("spec", .map 0 [("containers", .seq 0 [
      .map 0 [("name", .scalar "!!str" "b" 0), ("image", .scalar "!!str" "z" 0)],
      .map 0 [("name", .scalar "!!str" "a" 0), ("$patch", .scalar "!!str" "delete" 0)]]),
    ("args", .seq 0 [.scalar "!!str" "only" 0])])]

def m2 (p t : Node) : Out (Option Node) := merge2 o0 ["name"] sch0 64 (some p) (some t)

/-- merge by key, element delete, atomic list replace, untouched field kept — as the rules say -/
example : m2 pat tgt = .ok (some (.map 0 [
    ("metadata", .map 0 [("finalizers", .seq 0 [.scalar "" "f1" 0])]),
    ("spec", .map 0 [("containers", .seq 0 [.map 0 [("name", .scalar "!!str" "b" 0), ("image", .scalar "!!str" "z" 0)]]),
      ("args", .seq 0 [.scalar "!!str" "only" 0]),
      ("keep", .scalar "!!str" "me" 0)])])) := by decide +kernel

/-- idempotence on this instance: applying the patch to its own result changes nothing -/
example : (match m2 pat tgt with | .ok (some r) => m2 pat r | o => o) = m2 pat tgt := by decide +kernel

/-- finding C04-K1 in the model: an int patched over a quoted string keeps the quotes (style 2 = double-quoted),
    so the emitted scalar is a string -/
theorem Witness.patched_scalar_keeps_quoting :
    m2 (.map 0 [("free", .scalar "!!int" "1" 0)]) (.map 0 [("free", .scalar "!!str" "1" 2)])
      = .ok (some (.map 0 [("free", .scalar "!!int" "1" 2)])) := by decide +kernel

end Kust.C04
