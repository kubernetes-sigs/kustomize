/-
  C03 — name references follow every rename.
  What is proved here is the bookkeeping half the reference fixer depends on: every renaming step records the
  previous id BEFORE it renames, so the original name stays findable for any number of layers; the bookkeeping
  never panics on named resources; and the regenerated rule table still contains the rules the property names
  and writes no identity field.  The sieve (`selectReferral`) is modelled and proved in C03b, the candidate subset in
  C03c; which resources are candidates at which layer is exercised by the whole-build edge oracle.
-/
import Kust.Lemmas.Res
import Kust.Gen.FieldSpecs
namespace Kust.C03
open Kust Res

/-- the name under which a resource was loaded, as the reference fixer can recover it -/
def origName (r : R) : String := r.pNames.head?.getD r.name

/-- once a named resource has recorded its id, the first recorded name is the name under which it was loaded -/
theorem storePrev_head (cs : Gvk → Bool) (r : R) (hn : r.name ≠ "") :
    (r.storePrev cs).pNames.head? = some (origName r) := by
  simp only [R.storePrev, appendCsv, if_neg hn, origName]
  cases r.pNames <;> rfl

theorem storePrev_origName (cs : Gvk → Bool) (r : R) (hn : r.name ≠ "") : origName (r.storePrev cs) = origName r := by
  rw [origName, storePrev_head cs r hn]; rfl

/-- a renaming touches `pNames` only through `storePrev`, and whatever it then writes into the name is not looked at -/
theorem origName_of_renamed {cs : Gvk → Bool} {r r' : R} (h : Renamed cs r r') (hn : r.name ≠ "") :
    origName r' = origName r := by
  induction h with
  | refl => rfl
  | step h1 _ ih => rw [← ih, origName, storePrev_head cs _ (h1.named hn)]; rfl

/-- through any number of layers of namespace / prefix / suffix directives the name under
    which the resource was loaded remains the first recorded name — the reference fixer can always match the
    referrer's (original) field value against it. -/
theorem rename_records (cs : Gvk → Bool) (skip : String → Bool) :
    ∀ (ls : List Layer) (r r' : R), r.Good → layers cs skip ls r = .ok r' → origName r' = origName r :=
  fun _ _ _ h he => origName_of_renamed (layers_renamed he) h.2.1

/-- a freshly loaded resource: its original name is its name -/
theorem fresh_origName (g : Gvk) (n ns : String) : origName { gvk := g, name := n, ns := ns } = n := rfl

/-! ### the regenerated rule table -/

open Gen in
/-- no rule writes an identity field (so fixing one referrer never changes what another one looks up) -/
theorem rules_write_no_identity :
    nameReference.all (fun r => r.fieldSpecs.all (fun f =>
      f.path != "" && f.path != "metadata/name" && f.path != "metadata/namespace" && f.path != "kind" &&
      f.path != "apiVersion")) = true := by decide +kernel

open Gen in
def hasRule (referent referrer path : String) : Bool :=
  nameReference.any (fun r => r.kind == referent && r.fieldSpecs.any (fun f => f.kind == referrer && f.path == path))

/-- the rules the property names are in the table the code uses now (pod-spec ConfigMap/Secret references,
    service accounts, volume claims, autoscaler targets, ingress backends, role bindings, StatefulSet services) -/
theorem essential_rules_present :
    ([("ConfigMap", "Deployment", "spec/template/spec/volumes/configMap/name"),
      ("ConfigMap", "Deployment", "spec/template/spec/containers/env/valueFrom/configMapKeyRef/name"),
      ("ConfigMap", "Deployment", "spec/template/spec/containers/envFrom/configMapRef/name"),
      ("ConfigMap", "StatefulSet", "spec/template/spec/volumes/configMap/name"),
      ("ConfigMap", "DaemonSet", "spec/template/spec/volumes/configMap/name"),
      ("ConfigMap", "Job", "spec/template/spec/volumes/configMap/name"),
      ("ConfigMap", "CronJob", "spec/jobTemplate/spec/template/spec/volumes/configMap/name"),
      ("ConfigMap", "Pod", "spec/volumes/configMap/name"),
      ("ConfigMap", "Pod", "spec/containers/env/valueFrom/configMapKeyRef/name"),
      ("Secret", "Deployment", "spec/template/spec/volumes/secret/secretName"),
      ("Secret", "Deployment", "spec/template/spec/containers/env/valueFrom/secretKeyRef/name"),
      ("Secret", "Deployment", "spec/template/spec/containers/envFrom/secretRef/name"),
      ("Secret", "Deployment", "spec/template/spec/imagePullSecrets/name"),
      ("Secret", "StatefulSet", "spec/template/spec/volumes/secret/secretName"),
      ("Secret", "Pod", "spec/volumes/secret/secretName"),
      ("Secret", "CronJob", "spec/jobTemplate/spec/template/spec/volumes/secret/secretName"),
      ("ServiceAccount", "Deployment", "spec/template/spec/serviceAccountName"),
      ("ServiceAccount", "Pod", "spec/serviceAccountName"),
      ("ServiceAccount", "RoleBinding", "subjects"),
      ("ServiceAccount", "ClusterRoleBinding", "subjects"),
      ("PersistentVolumeClaim", "Deployment", "spec/template/spec/volumes/persistentVolumeClaim/claimName"),
      ("PersistentVolumeClaim", "StatefulSet", "spec/template/spec/volumes/persistentVolumeClaim/claimName"),
      ("PersistentVolumeClaim", "Pod", "spec/volumes/persistentVolumeClaim/claimName"),
      ("Deployment", "HorizontalPodAutoscaler", "spec/scaleTargetRef/name"),
      ("StatefulSet", "HorizontalPodAutoscaler", "spec/scaleTargetRef/name"),
      ("Service", "Ingress", "spec/rules/http/paths/backend/service/name"),
      ("Service", "StatefulSet", "spec/serviceName"),
      ("Role", "RoleBinding", "roleRef/name"),
      ("ClusterRole", "RoleBinding", "roleRef/name"),
      ("ClusterRole", "ClusterRoleBinding", "roleRef/name")] : List (String × String × String)).all
        (fun e => hasRule e.1 e.2.1 e.2.2) = true := by decide +kernel

end Kust.C03
