/-
  C19 — deprecated field spellings build to the same output as their replacements.
  * load-time spellings (bases, imageTags, env): `FixKustomization` IS the rewrite and it is idempotent, so the
    kustomization the build sees is the same object for both spellings (`fixLoad_idem`, `load_spelling_same_build`,
    for every build function whatsoever);
  * commonLabels ↦ labels/includeSelectors: the label configurator produces the same transformer run, for every
    transformer configuration without a `labels:` section whose commonLabels field specs are pairwise distinct
    (`commonLabels_step_eq`; the regenerated default table is distinct in every order: `default_table_distinct`);
  * patchesStrategicMerge / patchesJson6902 ↦ patches (`kustomize edit fix`): the fix MOVES runs — strategic-merge
    patches after the `patches` and the JSON patches, JSON patches before namespace/prefix/suffix/labels/annotations —
    so the output is the same exactly when the moved runs commute with the runs they cross
    (`editfix_preserves_build`), and runs with disjoint footprints commute (`disjoint_commute`).
  The effect of a single transformer run (`sem`) is a parameter: whole builds of both spellings are compared by
  the oracle.
-/
import Kust.Fix
import Kust.Lemmas.Basic
namespace Kust.C19
open Kust Fix Gen

/-! ### load-time spellings -/

theorem fixGen_env (g : GenArgs) : (fixGen g).env = "" := by
  fun_cases fixGen g
  · rfl                                        -- `env` has been moved
  · next h => exact Decidable.not_not.mp h

theorem fixGen_idem (g : GenArgs) : fixGen (fixGen g) = fixGen g := by
  rw [fixGen, if_neg (not_not_intro (fixGen_env g))]

theorem map_fixGen_idem (l : List GenArgs) : (l.map fixGen).map fixGen = l.map fixGen := by
  simp only [List.map_map, Function.comp_def, fixGen_idem]

theorem fixLoad_idem (k : K) : fixLoad (fixLoad k) = fixLoad k := by
  -- the defaults filled in are not empty, so they are not filled in again (`c`: the test on `kind`, which the second pass
  -- spells with the `kind` the first pass left)
  have hk : (if k.kind = "" then "Kustomization" else k.kind) ≠ "" := ite_ne (fun _ => by simp) id
  have ha : ∀ c : Prop, [Decidable c] → (if k.apiVersion = "" then
      (if c then "kustomize.config.k8s.io/v1alpha1" else "kustomize.config.k8s.io/v1beta1") else k.apiVersion) ≠ "" :=
    fun _ _ => ite_ne (fun _ => ite_ne (fun _ => by simp) fun _ => by simp) id
  simp only [fixLoad, hk, ha, if_false, List.append_nil, map_fixGen_idem]

/-- after loading there is no deprecated load-time field left -/
theorem fixLoad_no_deprecated (k : K) :
    (fixLoad k).bases = [] ∧ (fixLoad k).imageTags = [] ∧
    (∀ g ∈ (fixLoad k).cms, g.env = "") ∧ (∀ g ∈ (fixLoad k).secrets, g.env = "") := by
  have h : ∀ l : List GenArgs, ∀ g ∈ l.map fixGen, g.env = "" := fun l g hg => by
    obtain ⟨a, _, rfl⟩ := List.mem_map.mp hg
    exact fixGen_env a
  exact ⟨rfl, rfl, h _, h _⟩

/-- the user-level rewrite of the load-time spellings -/
def rewriteLoad (k : K) : K :=
  { k with resources := k.resources ++ k.bases, bases := [], images := k.images ++ k.imageTags, imageTags := [],
           cms := k.cms.map fixGen, secrets := k.secrets.map fixGen }

theorem rewriteLoad_fix (k : K) : fixLoad (rewriteLoad k) = fixLoad k := by
  simp only [fixLoad, rewriteLoad, List.append_nil, map_fixGen_idem]
  rfl

/-- a build is a function of the loaded (fixed) kustomization, so — whatever that
    function is — both spellings build to the same output -/
theorem load_spelling_same_build {Out : Type} (build : K → Out) (k : K) :
    build (fixLoad (rewriteLoad k)) = build (fixLoad k) := by rw [rewriteLoad_fix]

theorem bases_eq_resources (k : K) (r b : List String) :
    fixLoad { k with resources := r, bases := b } = fixLoad { k with resources := r ++ b, bases := [] } := by
  simp [fixLoad]

theorem imageTags_eq_images (k : K) (i t : List String) :
    fixLoad { k with images := i, imageTags := t } = fixLoad { k with images := i ++ t, imageTags := [] } := by
  simp [fixLoad]

theorem env_eq_envs (body : String) (envs : List String) (e : String) (h : e ≠ "") :
    fixGen ⟨body, envs, e⟩ = fixGen ⟨body, envs ++ [e], ""⟩ := by
  simp [fixGen, h]

/-! ### FsSlice.MergeAll on distinct lists -/

def Distinct (l : List FieldSpec) : Prop := l.Pairwise (fun x y => effEq x y = false ∧ effEq y x = false)

theorem mergeOne_fresh {s : List FieldSpec} {x : FieldSpec} (h : ∀ a ∈ s, effEq a x = false) :
    mergeOne s x = some (s ++ [x]) := by
  rw [mergeOne, List.find?_eq_none.mpr fun a ha => by simp [h a ha]]

theorem mergeAll_append (acc l : List FieldSpec)
    (h1 : ∀ a ∈ acc, ∀ x ∈ l, effEq a x = false) (h2 : l.Pairwise (fun x y => effEq x y = false)) :
    mergeAll acc l = some (acc ++ l) := by
  induction l generalizing acc with
  | nil => simp [mergeAll]
  | cons x r ih =>
    rw [List.pairwise_cons] at h2
    simp only [mergeAll, mergeOne_fresh fun a ha => h1 a ha x List.mem_cons_self]
    rw [ih _ _ h2.2, List.append_assoc]
    · rfl
    · -- the accumulator has grown by `x`, which `h2` separates from the rest
      intro a ha y hy
      rcases List.mem_append.mp ha with ha | ha
      · exact h1 a ha y (List.mem_cons_of_mem _ hy)
      · obtain rfl := List.mem_singleton.mp ha
        exact h2.1 y hy

theorem mergeAll_nil (l : List FieldSpec) (h : Distinct l) : mergeAll [] l = some l := by
  have := mergeAll_append [] l (by simp) (h.imp fun hxy => hxy.1)
  simpa using this

/-- no two entries at different places of the list answer to each other under the wildcard comparison (all ordered
    pairs are looked at, so the order in which the loader sorts the list does not matter) -/
def distinctB (l : List FieldSpec) : Bool :=
  (l.zipIdx.all fun (x, i) => l.zipIdx.all fun (y, j) => i == j || !(effEq x y))

theorem default_table_distinct :
    distinctB commonLabelsSpecs = true ∧ distinctB templateLabelsSpecs = true ∧ distinctB commonAnnotationsSpecs = true := by
  decide +kernel

/-! ### commonLabels ↦ labels with includeSelectors -/

/-- the label entry `edit fix` creates configures exactly the run commonLabels does -/
theorem commonLabels_step_eq (tc : TC) (cl : List (String × String)) (h0 : tc.labels = []) (hd : Distinct tc.commonLabels) :
    labelStep tc { pairs := cl, incSel := true, incTpl := false, fields := [] } = .label cl tc.commonLabels := by
  simp [labelStep, h0, mergeAll, mergeAll_nil _ hd]

/-! ### moving runs: commutation -/

def Comm {S : Type} (f g : S → S) : Prop := ∀ s, f (g s) = g (f s)

section
variable {S : Type} (sem : Step → S → S)

theorem run_nil : run sem [] = id := rfl

theorem run_append (a b : List Step) : run sem (a ++ b) = run sem b ∘ run sem a := by
  funext s; simp [run, List.foldl_append]

theorem run_map_congr {α : Type} {f g : α → Step} (h : ∀ a, sem (f a) = sem (g a)) (l : List α) :
    run sem (l.map f) = run sem (l.map g) := by
  funext s; simp only [run, List.foldl_map, h]

theorem run_comm (g : S → S) (B : List Step) (h : ∀ b ∈ B, Comm g (sem b)) : Comm g (run sem B) := by
  induction B with
  | nil => exact fun _ => rfl
  | cons b r ih =>
    intro s
    show g (run sem r (sem b s)) = run sem r (sem b (g s))
    rw [← h b List.mem_cons_self s, ih fun x hx => h x (List.mem_cons_of_mem _ hx)]

/-- if every run of `A` commutes with every run of `B`, the two blocks can be exchanged -/
theorem run_swap (A B : List Step) (h : ∀ a ∈ A, ∀ b ∈ B, Comm (sem a) (sem b)) (s : S) :
    run sem B (run sem A s) = run sem A (run sem B s) :=
  run_comm sem _ A (fun a ha s => (run_comm sem _ B (h a ha) s).symm) s

end

/-- state = location ↦ value; a run that changes only locations in `W`, and what it puts there depends only on the
    locations in `R` -/
structure Footprint {L V : Type} (f : (L → V) → (L → V)) (R W : L → Prop) : Prop where
  frame : ∀ s l, ¬ W l → f s l = s l
  reads : ∀ s s', (∀ l, R l → s l = s' l) → ∀ l, W l → f s l = f s' l

/-- two runs, each writing nothing the other reads or writes, commute — for every state -/
theorem disjoint_commute {L V : Type} (f g : (L → V) → (L → V)) (Rf Wf Rg Wg : L → Prop)
    (hf : Footprint f Rf Wf) (hg : Footprint g Rg Wg)
    (h1 : ∀ l, Wf l → ¬ Rg l ∧ ¬ Wg l) (h2 : ∀ l, Wg l → ¬ Rf l ∧ ¬ Wf l) : Comm f g := by
  intro s
  funext l
  by_cases hwf : Wf l
  · -- f writes l, g does not touch it and f's reads are untouched by g
    have hgl : ¬ Wg l := (h1 l hwf).2
    rw [hg.frame (f s) l hgl]
    exact hf.reads (g s) s (fun l' hr => hg.frame s l' (fun hw => (h2 l' hw).1 hr)) l hwf
  · rw [hf.frame (g s) l hwf]
    by_cases hwg : Wg l
    · exact (hg.reads (f s) s (fun l' hr => hf.frame s l' (fun hw => (h1 l' hw).1 hr)) l hwg).symm
    · rw [hg.frame s l hwg, hg.frame (f s) l hwg, hf.frame s l hwf]

/-! ### `kustomize edit fix` -/

def asPatch (isFile : String → Bool) (s : String) : Patch :=
  if isFile s then { path := s, patch := "", target := "", options := "" }
  else { path := "", patch := s, target := "", options := "" }

/-- the runs between the `patches` and the JSON patches -/
def middle (tc : TC) (k : K) : List Step := [.ns, .pre, .suf] ++ stepsOf tc k "LabelTransformer" ++ [.annos]

def tail (k : K) : List Step := [.replicas, .images k.images, .replacement]

/-- the regenerated execution order gives this plan -/
theorem plan_shape (tc : TC) (k : K) :
    plan tc k = k.psm.map .psm ++ k.patches.map .patch ++ middle tc k ++ k.pj.map .pj ++ tail k := by
  simp [plan, planWith, Gen.transformerOrder, stepsOf, middle, tail]

section
variable {S : Type} (sem : Step → S → S)

/-- what `edit fix` does to the fields the plan reads -/
theorem fixPre_spec {isFile : String → Bool} {k k' : K} (h : fixPre isFile k = some k') :
    k'.psm = [] ∧ k'.pj = [] ∧ k'.patches = k.patches ++ k.pj ++ k.psm.map (asPatch isFile) ∧ k'.images = k.images ∧
    (k'.labels = k.labels ∧ k'.commonLabels = k.commonLabels ∨
     k.commonLabels ≠ [] ∧ k'.commonLabels = [] ∧
       k'.labels = k.labels ++ [{ pairs := k.commonLabels, incSel := true, incTpl := false, fields := [] }]) := by
  revert h
  fun_cases fixPre isFile k
  · intro h; obtain rfl := Option.some.inj h   -- no commonLabels
    exact ⟨rfl, rfl, rfl, rfl, .inl ⟨rfl, rfl⟩⟩
  · nofun                                      -- a key in both commonLabels and labels
  · next hne _ =>                              -- commonLabels become a new last `labels` entry
    intro h; obtain rfl := Option.some.inj h
    exact ⟨rfl, rfl, rfl, rfl, .inr ⟨fun e => hne (by rw [e]; rfl), rfl, rfl⟩⟩

/-- the LabelTransformer part of the plan before and after the fix has the same effect -/
theorem labelSteps_fix (tc : TC) {isFile : String → Bool} {k k' : K} (h0 : tc.labels = [])
    (hd : Distinct tc.commonLabels) (hid : ∀ f s, sem (.label [] f) s = s) (hfix : fixPre isFile k = some k') :
    run sem (stepsOf tc k' "LabelTransformer") = run sem (stepsOf tc k "LabelTransformer") := by
  rw [stepsOf, stepsOf]
  obtain ⟨-, -, -, -, ⟨h1, h2⟩ | ⟨hne, h2, h1⟩⟩ := fixPre_spec hfix
  · rw [h1, h2]
  · -- the commonLabels run is now the last `labels` run (`commonLabels_step_eq`); the one left behind is empty
    rw [h1, h2, if_neg (by simp), if_neg (by simp [hne]), List.map_append, List.map_singleton,
      commonLabels_step_eq tc _ h0 hd, run_append]
    exact funext fun s => hid _ _

/-- `kustomize edit fix` (FixKustomizationPreMarshalling) leaves the build unchanged
    whenever (a) a strategic-merge patch given under either field is the same run, likewise a JSON patch,
    (b) every strategic-merge patch commutes with every `patches` entry and every JSON patch,
    (c) every JSON patch commutes with the namespace/prefix/suffix/label/annotation runs it is moved across, and
    (d) a label run without pairs does nothing (`hid`: the emptied commonLabels still get their run).
    (b) and (c) follow from disjoint footprints by `disjoint_commute`.  Stated for every kustomization,
    every configuration with distinct commonLabels specs and no `labels:` section, every run semantics. -/
theorem editfix_preserves_build {S : Type} (sem : Step → S → S) (tc : TC) (isFile : String → Bool) (k k' : K)
    (hfix : fixPre isFile k = some k')
    (h0 : tc.labels = []) (hd : Distinct tc.commonLabels) (hid : ∀ f s, sem (.label [] f) s = s)
    (hpsm : ∀ x, sem (.psm x) = sem (.patch (asPatch isFile x)))
    (hpj : ∀ p, sem (.pj p) = sem (.patch p))
    (hb : ∀ x ∈ k.psm, ∀ p ∈ k.patches ++ k.pj, Comm (sem (.patch (asPatch isFile x))) (sem (.patch p)))
    (hc : ∀ p ∈ k.pj, ∀ m ∈ middle tc k, Comm (sem (.patch p)) (sem m))
    (s : S) :
    run sem (plan tc k') s = run sem (plan tc k) s := by
  obtain ⟨e1, e2, e3, e4, -⟩ := fixPre_spec hfix
  have hM : run sem (middle tc k') = run sem (middle tc k) := by
    simp only [middle, run_append, labelSteps_fix sem tc h0 hd hid hfix]
  -- Write P, Q, J for the runs of the strategic-merge patches, the `patches` entries and the JSON patches (all as
  -- `patches` runs, by `hpsm`, `hpj`) and M for the middle.  Up to the common tail the goal is
  --   M (P (J (Q s))) = J (M (Q (P s))).
  -- By (b) P passes Q and J (`hQ : J (Q (P s)) = P (J (Q s))`), by (c) J passes M (`hJ : M (J x) = J (M x)`).
  have hQ := run_swap sem (k.psm.map (Step.patch ∘ asPatch isFile)) ((k.patches ++ k.pj).map .patch)
    (List.forall_mem_map.mpr fun x hx => List.forall_mem_map.mpr (hb x hx))
  have hJ := run_swap sem (k.pj.map .patch) (middle tc k) (List.forall_mem_map.mpr hc)
  rw [plan_shape, plan_shape, e1, e2, e3, tail, tail, e4]
  simp only [run_append, hM, run_map_congr sem hpsm, run_map_congr sem hpj, List.map_nil, run_nil,
    List.map_append, List.map_map, Function.comp_apply, Function.comp_def, id] at hQ ⊢
  rw [← hQ, hJ]
end

/-- non-vacuity: a kustomization with all three deprecated patch/label spellings is fixed (no label clash) -/
example : (fixPre (fun s => s = "p.yaml")
    { commonLabels := [("app", "x")], labels := [⟨[("tier", "db")], false, false, []⟩], psm := ["p.yaml", "kind: X"],
      patches := [⟨"q.yaml", "", "", ""⟩], pj := [⟨"j.yaml", "", "t", ""⟩] }).isSome = true := by decide +kernel

end Kust.C19
