/-
  C15 — three-way merge honours the basic merge laws.
  Model: `Walk.merge3` (walker + merge3.Visitor, tied by component walk.merge3).
  `ser a b` = "RNode.String() of a and b (forced style) are equal": third-party emitter, a parameter with the one
  assumed property that a node's text equals its own text (`SerRefl`).

  The full laws are FALSE of the code (and of the model) — kept as statements, refuted by kernel-evaluated
  witnesses — so what is proved is partial: the leaf decisions (`visitScalar`, non-associative lists) obey all
  laws on null-free inputs (each law an instance of the decision tables `visitScalar_untagged`,
  `visitList_atomic_untagged`), and the precise places where the map/keyed-list decisions break them are theorems
  too (`map_missing_dest_creates_empty`, `alist_missing_dest_creates_empty`).
-/
import Kust.Walk
import Kust.Lemmas.Basic
namespace Kust.C15
open Kust Node Walk

def SerRefl (ser : Option Node → Option Node → Bool) : Prop := ∀ a, ser a a = true

/-- the model's structural stand-in for the emitter (used by the driver and the witnesses) -/
def ser0 : Option Node → Option Node → Bool
  | none, none => true
  | some (.scalar _ v _), some (.scalar _ w _) => v == w
  | some a, some b => decide (a.withStyle 0 = b.withStyle 0)
  | _, _ => false

theorem ser0_refl : SerRefl ser0 := by
  intro a
  cases a with
  | none => rfl
  | some n => cases n <;> simp [ser0]

def o0 : Opts := { infer := false, prepend := false, ns := fun _ => false }
def m3 (d o u : Node) : Out (Option Node) := merge3 ser0 o0 ["name"] 64 (some d) (some o) (some u)

/-! ### full statements (false today) and their witnesses -/

/-- law 1, full strength: nothing changed upstream ⇒ the result is local -/
def Law1_full : Prop := ∀ l o : Node, m3 l o o = .ok (some l)
/-- law 2, full strength: nothing changed locally ⇒ the result is upstream -/
def Law2_full : Prop := ∀ o u : Node, m3 o o u = .ok (some u)

def wO : Node := .map 0 [("a", .map 0 [("x", .scalar "!!str" "1" 0)]), ("b", .scalar "!!str" "v" 0)]
def wL : Node := .map 0 [("b", .scalar "!!str" "v" 0)]

/-- finding 6 (C15-K1): a map deleted locally and unchanged upstream comes back as `{}` -/
theorem Witness.local_map_deletion_leaves_empty :
    m3 wL wO wO = .ok (some (.map 0 [("b", .scalar "!!str" "v" 0), ("a", .map 0 [])])) := by decide +kernel

theorem Law1_full_false : ¬ Law1_full := by
  intro h
  have := h wL wO
  rw [Witness.local_map_deletion_leaves_empty] at this
  cases this

/-- finding 6 (C15-K2): a map removed upstream (local unchanged) leaves `{}` behind -/
theorem Witness.upstream_map_deletion_leaves_empty :
    m3 wO wO wL = .ok (some (.map 0 [("a", .map 0 []), ("b", .scalar "!!str" "v" 0)])) := by decide +kernel

theorem Law2_full_false : ¬ Law2_full := by
  intro h
  have := h wO wL
  rw [Witness.upstream_map_deletion_leaves_empty] at this
  simp [wL] at this

/-- finding 6 (C15-K3): a scalar whose TYPE changes upstream ("1" → 1) keeps the old type: the value text is equal, so
    `VisitScalar` keeps the destination node with its old tag and quotes -/
theorem Witness.scalar_type_not_updated :
    m3 (.map 0 [("n", .scalar "!!str" "1" 2)]) (.map 0 [("n", .scalar "!!str" "1" 2)]) (.map 0 [("n", .scalar "!!int" "1" 0)])
      = .ok (some (.map 0 [("n", .scalar "!!str" "1" 2)])) := by decide +kernel

/-! ### the leaf decisions obey the laws -/

variable (ser : Option Node → Option Node → Bool)

def nonNull (n : Node) : Prop := n.isNull = false

/-- on a side that is no tagged null, "missing or null" is "missing" -/
theorem missing_of_untagged {x : Option Node} (h : isTaggedNull x = false) : isMissingOrNull x = x.isNone := by
  cases x with
  | none => rfl
  | some n => exact h

/-- **the scalar decision** for local `d`, original `o`, upstream `u`, none of them a tagged null: an addition or
    removal upstream wins; absent on both sides the local value stays; otherwise upstream wins when the local side
    did not touch the value and upstream did, or when the text differs -/
theorem visitScalar_untagged (same : Bool) (d o u : Option Node) (hd : isTaggedNull d = false)
    (ho : isTaggedNull o = false) (hu : isTaggedNull u = false) :
    ((visitor3 ser).visitScalar same [d, o, u]).bind (fun r => .ok r.node) = .ok (
      if u.isNone != o.isNone then u
      else if u.isNone && o.isNone then d
      else if (d.isNone || ser d o) && !ser o u then u
      else if (u.map Node.valueText) != (o.map Node.valueText) then u
      else d) := by
  dsimp only [visitor3]
  -- `dst`, `src1`, `src2` go by `simp`: `dsimp` leaves them folded inside the `Decidable` instances of the `if`s,
  -- and `Out.ite_bind` then does not match
  simp only [dst, src1, src2, List.drop_succ_cons, List.drop_zero, List.headD_cons, hd, hu, missing_of_untagged ho,
    missing_of_untagged hu, Bool.or_self, Bool.false_eq_true, if_false, Out.ite_bind, Out.ok_bind, apply_ite Out.ok]

/-- **the atomic-list decision** when no side is a tagged null -/
theorem visitList_atomic_untagged (same : Bool) (d o u : Option Node) (hd : isTaggedNull d = false)
    (ho : isTaggedNull o = false) (hu : isTaggedNull u = false) :
    ((visitor3 ser).visitList same [d, o, u] false).bind (fun r => .ok r.node) = .ok (
      if u.isNone != o.isNone then u
      else if u.isNone && o.isNone then d
      else if !ser u o then u
      else d) := by
  dsimp only [visitor3]
  simp only [dst, src1, src2, List.drop_succ_cons, List.drop_zero, List.headD_cons, hd, hu, missing_of_untagged ho,
    missing_of_untagged hu, Bool.or_self, Bool.false_eq_true, if_false, Out.ite_bind, Out.ok_bind, apply_ite Out.ok]

/-- **law 1 at a scalar**: upstream unchanged ⇒ the local value (present or absent) is the result -/
theorem scalar_local (hs : SerRefl ser) (l : Option Node) (o : Node) (ho : nonNull o)
    (hl : ∀ n, l = some n → nonNull n) :
    ((visitor3 ser).visitScalar false [l, some o, some o]).bind (fun r => .ok r.node) = .ok l := by
  have hl' : isTaggedNull l = false := by cases l with | none => rfl | some n => exact hl n rfl
  simp [visitScalar_untagged ser false l (some o) (some o) hl' ho ho, hs (some o)]

/-- **law 2 at a scalar**: local unchanged ⇒ the upstream value is the result, when upstream changed the text;
    when the text is unchanged the destination node is kept (this is where C15-K3 lives) -/
theorem scalar_upstream (o u : Node) (ho : nonNull o) (hu : nonNull u) (hne : ser (some o) (some u) = false) (hs : SerRefl ser) :
    ((visitor3 ser).visitScalar false [some o, some o, some u]).bind (fun r => .ok r.node) = .ok (some u) := by
  simp [visitScalar_untagged ser false (some o) (some o) (some u) ho ho hu, hs (some o), hne]

/-- **law 3 at a scalar** (all three sides equal) -/
theorem scalar_same (hs : SerRefl ser) (d : Node) (hd : nonNull d) :
    ((visitor3 ser).visitScalar false [some d, some d, some d]).bind (fun r => .ok r.node) = .ok (some d) :=
  scalar_local ser hs (some d) d hd (fun n h => by cases h; exact hd)

/-- **one-sided removal at a scalar**: removed upstream, untouched locally ⇒ removed -/
theorem scalar_removed_upstream (o : Node) (ho : nonNull o) :
    ((visitor3 ser).visitScalar false [some o, some o, none]).bind (fun r => .ok r.node) = .ok none := by
  simp [visitScalar_untagged ser false (some o) (some o) none ho ho rfl]

/-- **one-sided addition at a scalar**: added upstream ⇒ present -/
theorem scalar_added_upstream (u : Node) (hu : nonNull u) :
    ((visitor3 ser).visitScalar false [none, none, some u]).bind (fun r => .ok r.node) = .ok (some u) := by
  simp [visitScalar_untagged ser false none none (some u) rfl rfl hu]

/-- **atomic lists**: unchanged upstream ⇒ local list kept; changed upstream ⇒ upstream list -/
theorem nalist_local (hs : SerRefl ser) (l o : Node) (hl : nonNull l) (ho : nonNull o) :
    ((visitor3 ser).visitList false [some l, some o, some o] false).bind (fun r => .ok r.node) = .ok (some l) := by
  simp [visitList_atomic_untagged ser false (some l) (some o) (some o) hl ho ho, hs (some o)]

theorem nalist_upstream (o u : Node) (ho : nonNull o) (hu : nonNull u) (hne : ser (some u) (some o) = false) :
    ((visitor3 ser).visitList false [some o, some o, some u] false).bind (fun r => .ok r.node) = .ok (some u) := by
  simp [visitList_atomic_untagged ser false (some o) (some o) (some u) ho ho hu, hne]

/-! ### where the container decisions break the laws (root cause of finding 6) -/

/-- `VisitMap` materialises an empty map for a destination that lacks the field when the original and upstream both
    have it — that is, also when the local side deleted it on purpose. -/
theorem map_missing_dest_creates_empty (o u : Node) (hu : nonNull u) :
    ((visitor3 ser).visitMap false [none, some o, some u]).bind (fun r => .ok r.node) = .ok (some (.map 0 [])) := by
  have hu' : u.isNull = false := hu
  dsimp only [visitor3]
  simp [dst, src2, isTaggedNull, hu', Out.bind]

theorem alist_missing_dest_creates_empty (o u : Node) (hu : nonNull u) :
    ((visitor3 ser).visitList false [none, some o, some u] true).bind (fun r => .ok r.node) = .ok (some (.seq 0 [])) := by
  have hu' : u.isNull = false := hu
  dsimp only [visitor3]
  simp [dst, src1, src2, isMissingOrNull, hu', Out.bind]

/-- positive instances evaluated in the kernel: one-sided edits on both sides survive together -/
example :
    m3 (.map 0 [("a", .scalar "!!str" "L" 0), ("b", .scalar "!!str" "v" 0)])
       (.map 0 [("a", .scalar "!!str" "x" 0), ("b", .scalar "!!str" "v" 0)])
       (.map 0 [("a", .scalar "!!str" "x" 0), ("b", .scalar "!!str" "U" 0), ("c", .scalar "!!int" "3" 0)])
    = .ok (some (.map 0 [("a", .scalar "!!str" "L" 0), ("b", .scalar "!!str" "U" 0), ("c", .scalar "!!int" "3" 0)])) := by
  decide +kernel

end Kust.C15
