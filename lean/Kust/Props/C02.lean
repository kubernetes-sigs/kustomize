/-
  C02 — untargeted content passes through a build unchanged (frame / type fidelity).
  * the field-spec filter touches a resource only where its setter is called: with the identity setter it returns
    the resource unchanged (`filter_id`, the last clause of `Match.EditedAt` in `C14.filter_edits`), a GVK mismatch returns
    it unchanged;
  * documented footprints: the REGENERATED tables of the built-in transformers mention only the documented locations
    (`footprints`: prefix, suffix, replicas, images, annotations, namespace), and every segment of their paths is a plain
    field name once a `[]` hint is taken off (`tables_paths_wellformed`; both by kernel evaluation).  Six
    paths carry the hint (`…containers[]/image`, `spec/volumeClaimTemplates[]/metadata/labels`); the theorems about
    the filter (here, C14d, C14e) speak of paths without it;
  * type fidelity: a string value that YAML 1.1 would read as a non-string is double-quoted by the setters' style
    adjustment (`setter_keeps_string`), for every value and every `IsValueNonString`, and a NEW entry is stored so
    (`set_entry_new`); over an existing field the old style wins (`C14.stored`; finding C02-K1, `C02c`).
  Whole-build frame and typed equality are decided by the tracer oracle on real builds with the adversarial
  scalar dictionary.
-/
import Kust.Props.C14
import Kust.Props.C14d
import Kust.Gen.FieldSpecs
import Kust.Lemmas.Ident
import Kust.Lemmas.FieldPath
namespace Kust.C02
open Kust Node Fns FieldSpec

/-- a spec whose GVK does not match leaves the resource untouched -/
theorem gvk_mismatch_untouched (ns : String → Bool) (set : Node → Out Node) (spec : Gen.FieldSpec) (cr : Create)
    (g v k : String) (obj : Node) (h : matchGVK spec g v k = false) :
    FieldSpec.apply ns set spec cr g v k obj = .ok obj := by
  simp [FieldSpec.apply, h]

/-- **the filter changes nothing by itself**: without creation and with the identity setter, whatever the document
    and whatever plain path, a successful run returns the document it was given — every change a transformer makes
    is made by its setter, at the nodes the path denotes (`C14.filter_edits`). -/
theorem filter_id (ns : String → Bool) (cr : Create) :
    ∀ (fuel : Nat) (path : List String) (obj obj' : Node), (∀ seg ∈ path, Plain seg) →
      filter ns (fun n => .ok n) false cr fuel path obj = .ok obj' → obj' = obj :=
  fun fuel path obj obj' hp h =>
    (C14.filter_edits ns _ cr fuel path obj obj' hp h).2.2 fun _ _ _ _ _ h => by cases h; rfl

/-! ### type fidelity of the setters -/

/-- when a transformer writes a string value that the YAML 1.1 readers used by Kubernetes
    would re-type (`ns v`: yes/no/on/off/012/1e3/…), the setters' style adjustment double-quotes it — for every value and
    every implementation of the YAML-1.1 test.  (Holds for plain, untagged or `!!str`-tagged values, which is what
    `filtersutil.SetEntry` creates.) -/
theorem setter_keeps_string (ns : String → Bool) (v : String) (tag : String) (ht : tag = "!!str" ∨ tag = "")
    (h : ns v = true) : (quoteIfNonString ns false (.scalar tag v 0)).style = dq := by
  simp [quoteIfNonString, ht, h, Node.style]

/-- a value that is safe is left plain -/
theorem setter_leaves_safe_plain (ns : String → Bool) (v tag : String) (h : ns v = false) :
    quoteIfNonString ns false (.scalar tag v 0) = .scalar tag v 0 := by
  simp [quoteIfNonString, h]

/-- a new map entry written by `SetEntry` (`keep` and `overrideStyle` off) is quoted when needed and appended, the rest
    of the map is untouched -/
theorem set_entry_new (ns : String → Bool) (k v : String) (s : Nat) (fs : Fields) (h : fieldGet k fs = none) :
    fieldSetter ns k (some (.scalar "!!str" v 0)) false false (.map s fs) =
      .ok (.map s (fs ++ [(k, quoteIfNonString ns false (.scalar "!!str" v 0))]), some (quoteIfNonString ns false (.scalar "!!str" v 0))) := by
  -- `FieldSetter` stores what it is given (`C14.fieldSetter_store`); with no field of that name, as a new last one
  have hn : (Node.scalar "!!str" v 0).isNull = false := rfl
  rw [C14.fieldSetter_store ns k _ false false s fs (Or.inl hn), h, fieldPut_of_none h]
  rfl

/-! ### documented footprints of the built-in transformers (regenerated tables) -/

open Gen in
theorem footprints :
    namePrefixSpecs.all (fun f => f.path == "metadata/name") = true ∧
    nameSuffixSpecs.all (fun f => f.path == "metadata/name") = true ∧
    replicasSpecs.all (fun f => f.path == "spec/replicas") = true ∧
    imagesSpecs.all (fun f => Str.hasSuffix f.path "/image") = true ∧
    commonAnnotationsSpecs.all (fun f => Str.hasSuffix f.path "metadata/annotations") = true ∧
    namespaceSpecs.all (fun f => f.path == "metadata/name" || Str.hasSuffix f.path "/namespace") = true := by
  simp only [namePrefixSpecs, nameSuffixSpecs, replicasSpecs, imagesSpecs, commonAnnotationsSpecs, namespaceSpecs,
    List.all_cons, List.all_nil, Bool.and_true, Bool.and_eq_true, beq_self_eq_true, Bool.true_or, true_and,
    Bool.or_eq_true]
  -- remaining goals: the suffix tests, the last two of `namespaceSpecs` behind `("…" == "metadata/name") = true ∨`
  and_intros
  all_goals try right
  all_goals rw [Str.hasSuffix_ofList]; decide +kernel

/-- the test `tables_paths_wellformed` makes of every segment of the tables: a plain field name, possibly followed by the
    `[]` hint (`Plain` is without the hint, and so are the theorems about the filter) -/
def plainOrSeqB (seg : String) : Bool :=
  let n := (seqField seg).1
  n != "" && (cleanPath [n] == [n]) && (match classify n with | .ok (.field m) => m == n | _ => false)

/-- `Plain` once a `[]` hint is taken off passes the test (not conversely: `a[][]` passes it) -/
theorem plainOrSeqB_of_plain {seg : String} (h : Plain (seqField seg).1) : plainOrSeqB seg = true := by
  simp [plainOrSeqB, h.2.1, h.2.2.1, h.2.2.2]

/-- a path that scans into identifiers, each possibly followed by `[]`, has `Plain` segments (hint aside): what is
    evaluated, on characters, for each path of the tables -/
theorem segments_plain_ofList (cs : List Char)
    (h : (PathSplit.scan '/' (PathSplit.skipLead '/' cs) []).all (fun s => Str.identL (Str.stripSeqL s)) = true) :
    ∀ seg ∈ pathSplit (String.ofList cs), Plain (seqField seg).1 := by
  rw [pathSplit_ofList]
  intro seg hs
  obtain ⟨x, hx, rfl⟩ := List.mem_map.mp hs
  rw [Str.seqField_ofList]
  exact plain_of_ident (List.all_eq_true.mp h x hx)

theorem wellformed_ofList (cs : List Char)
    (h : (PathSplit.scan '/' (PathSplit.skipLead '/' cs) []).all (fun s => Str.identL (Str.stripSeqL s)) = true) :
    (pathSplit (String.ofList cs)).all plainOrSeqB = true :=
  List.all_eq_true.mpr fun seg hs => plainOrSeqB_of_plain (segments_plain_ofList cs h seg hs)

open Gen in
theorem tables_paths_wellformed :
    (commonLabelsSpecs ++ templateLabelsSpecs ++ commonAnnotationsSpecs ++ namePrefixSpecs ++ nameSuffixSpecs ++
      replicasSpecs ++ imagesSpecs ++ namespaceSpecs).all (fun f => (pathSplit f.path).all plainOrSeqB) = true := by
  simp only [List.all_append, commonLabelsSpecs, templateLabelsSpecs, commonAnnotationsSpecs, namePrefixSpecs,
    nameSuffixSpecs, replicasSpecs, imagesSpecs, namespaceSpecs, List.all_cons, List.all_nil, Bool.and_true,
    Bool.and_eq_true]
  -- `apply` unifies each path literal with `String.ofList ?cs`: the kernel then scans `?cs` and never a `String`
  and_intros <;> (apply wellformed_ofList; decide +kernel)

end Kust.C02
